import GoBatcher.Generated.Facts
import GoBatcher.Model.Locks
/-!
C20 (data-race discipline): the access tables regenerated from /repo's sources respect the guard declared for
every field (finite tables; `decide` over the whole table, kernel-evaluated). Removing a `Lock()`, moving an
access outside its critical section, replacing an atomic access by a plain one, writing a configuration field
after start-up, or touching the loop-confined field from another function changes the regenerated table and
these theorems stop checking.
-/
namespace GoBatcher.ExpectLocks

theorem facts_C20_lock_discipline_v2 : tableOk guardV2 (Facts.v2_accesses.map Access.ofTuple) = true := by decide +kernel

theorem facts_C20_lock_discipline_v1 : tableOk guardV1 (Facts.v1_accesses.map Access.ofTuple) = true := by decide +kernel

/-- hence no two post-initialisation accesses to one field conflict without a common mutex / atomics / confinement -/
theorem facts_C20_conflict_free_v2 (a b : Access) (ha : a ∈ Facts.v2_accesses.map Access.ofTuple)
    (hb : b ∈ Facts.v2_accesses.map Access.ofTuple) (hs : a.strct = b.strct) (hf : a.field = b.field)
    (hc : concurrentCandidates a b = true) : pairOk (guardV2 a.strct a.field) a b = true :=
  conflict_free guardV2 _ facts_C20_lock_discipline_v2 a b ha hb hs hf hc

theorem facts_C20_conflict_free_v1 (a b : Access) (ha : a ∈ Facts.v1_accesses.map Access.ofTuple)
    (hb : b ∈ Facts.v1_accesses.map Access.ofTuple) (hs : a.strct = b.strct) (hf : a.field = b.field)
    (hc : concurrentCandidates a b = true) : pairOk (guardV1 a.strct a.field) a b = true :=
  conflict_free guardV1 _ facts_C20_lock_discipline_v1 a b ha hb hs hf hc

/-- the tables are not empty and contain the accesses the discipline is about (non-vacuity) -/
theorem facts_C20_tables_nontrivial :
    Facts.v2_accesses.length ≥ 150 ∧ Facts.v1_accesses.length ≥ 100 ∧
    Facts.v2_accesses.contains ("batcher", "incTarget", "target", true, false, ["targetMutex:X"]) = true ∧
    Facts.v2_accesses.contains ("sharedResource", "clearPartitionId", "partitions", true, false, ["partlock:X"]) = true ∧
    Facts.v2_accesses.contains ("EventerBase", "Emit", "listeners", false, false, ["listenerMutex:S"]) = true ∧
    Facts.v1_accesses.contains ("Batcher", "incTarget", "target", true, false, ["targetMutex:X"]) = true := by decide +kernel

end GoBatcher.ExpectLocks
