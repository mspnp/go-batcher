import GoBatcher.Generated.TransLm
import GoBatcher.Props.C18
/-!
The error classification of the Azure Blob lease manager, TRANSLATED from `azure-blob-lease-manager.go` of both
generations on every run (`Generated/TransLm.lean`, by /verif/extract/translm.go), computes exactly the outcome
functions of `Model/LeaseMgr.lean` that the C18 theorems (`Props/C18.lean`) are about - for every error value
(any service-code string, a storage error without a code, a non-storage error), every index, every run length.
-/
namespace GoBatcher.ExpectTransLm
open LmSem TransLm

/-- `leasePartition` / `LeasePartition`: one SDK call; 15 s reported iff it returned no error; the events of the model -/
theorem trans_C18_leasePartition_v1 (index : Nat) (e : SdkErr) :
    ((v1_lm_leasePartition index e).secs, (v1_lm_leasePartition index e).ev) = leaseOutcome index e ∧
    (v1_lm_leasePartition index e).calls = 1 := by
  cases e with
  | none | other => exact ⟨rfl, rfl⟩
  | storage code =>
    rw [leaseOutcome_storage]
    by_cases h : code = "LeaseAlreadyPresent" <;> simp [v1_lm_leasePartition, done, h]

theorem trans_C18_LeasePartition_v2 (index : Nat) (e : SdkErr) :
    ((v2_lm_LeasePartition index e).secs, (v2_lm_LeasePartition index e).ev) = leaseOutcome index e ∧
    (v2_lm_LeasePartition index e).calls = 1 :=
  trans_C18_leasePartition_v1 index e     -- the two generations' translations are the same term

/-- `provision` / `Provision` from the container call on: an error is returned iff the model says so; its events -/
theorem trans_C18_provision_v1 (e : SdkErr) :
    (decide ((v1_lm_provision e).err ≠ .none), (v1_lm_provision e).ev) = provisionOutcome e ∧ (v1_lm_provision e).calls = 1 := by
  cases e with
  | none | other => exact ⟨rfl, rfl⟩
  | storage code =>
    rw [provisionOutcome_storage]
    by_cases h : code = "ContainerAlreadyExists" <;> simp [v1_lm_provision, done, h]

theorem trans_C18_Provision_v2 (e : SdkErr) :
    (decide ((v2_lm_Provision e).err ≠ .none), (v2_lm_Provision e).ev) = provisionOutcome e ∧ (v2_lm_Provision e).calls = 1 :=
  trans_C18_provision_v1 e

/-! ### the provisioning loops

Each is stated for any loop body that does for one blob what the generated one does, and for any `r` that is the loop's result
wrapped as the generated function wraps it: `rfl` then puts the generated function in, and what is left to check is its body. -/

variable {results : Nat → SdkErr} {body : Nat → LmSt → Except LmSt LmSt}

theorem forFrom_v2 (hb : ∀ i st, body i st =
      .ok { st with err := results i, calls := st.calls + 1, ev := st.ev ++ [blobEvent (results i) i] }) :
    ∀ (k i : Nat) (st : LmSt) {r : LmSt},
      r = done (match forFrom body k i st with | .error r => .error r | .ok st => .ok st) →
      r.ev = st.ev ++ (createV2 ((List.range' i k).map results) i).1 ∧
      r.calls = st.calls + (createV2 ((List.range' i k).map results) i).2
  | 0, i, st, _, hr => by subst hr; exact ⟨(List.append_nil _).symm, rfl⟩
  | k + 1, i, st, _, hr => by
    obtain ⟨h2, h3⟩ := forFrom_v2 hb k (i + 1)
      { st with err := results i, calls := st.calls + 1, ev := st.ev ++ [blobEvent (results i) i] }
      (hr.trans (by rw [forFrom, hb]))
    rw [h2, h3, List.range'_succ, List.map_cons, createV2_cons, List.append_assoc, Nat.add_assoc, Nat.add_comm 1]
    exact ⟨rfl, rfl⟩

/-- v2 `CreatePartitions(count)`: the events and the number of uploads are the model's `createV2`, whatever each
upload answers; no error reaches the caller; every blob is attempted -/
theorem trans_C18_CreatePartitions_v2 (count : Nat) (results : Nat → SdkErr) :
    ((v2_lm_CreatePartitions count results).ev, (v2_lm_CreatePartitions count results).calls) =
      createV2 ((List.range count).map results) ∧ (v2_lm_CreatePartitions count results).calls = count := by
  obtain ⟨h2, h3⟩ := forFrom_v2 (r := v2_lm_CreatePartitions count results) (results := results)
    (fun i st => by
      unfold blobEvent
      cases h : results i with
      | none | other => rfl
      | storage code =>
        rw [blobOutcome_storage]
        by_cases h1 : code = "BlobAlreadyExists" ∨ code = "LeaseIdMissing" <;> simp [h1]) count 0 {} rfl
  rw [h2, h3, List.range_eq_range']
  refine ⟨by simp, by simp [(C18.v2_attempts_all _ _).1]⟩

theorem blobOutcome_err_ne_none (r : SdkErr) (h : blobOutcome r = .err) : r ≠ .none := by
  intro h'; subst h'; simp [blobOutcome] at h

/-- the state the loop leaves (by falling through or by `return`), against the model from index `i` on; a state that
enters with `err = none` -/
theorem forFrom_v1 (hb : ∀ i st, body i st =
      if blobOutcome (results i) = .err then .error { st with err := results i, calls := st.calls + 1 }
      else .ok { st with err := .none, calls := st.calls + 1, ev := st.ev ++ [blobEvent (results i) i] }) :
    ∀ (k i : Nat) (st : LmSt) {r : LmSt}, st.err = .none →
      r = done (match forFrom body k i st with | .error r => .error r | .ok st => .error st) →
      (r.err != .none) = (createV1 ((List.range' i k).map results) i).1 ∧
      r.ev = st.ev ++ (createV1 ((List.range' i k).map results) i).2.1 ∧
      r.calls = st.calls + (createV1 ((List.range' i k).map results) i).2.2
  | 0, i, st, _, h, hr => by subst hr; simp [createV1, h]
  | k + 1, i, st, _, h, hr => by
    rw [forFrom, hb] at hr
    rw [List.range'_succ, List.map_cons, createV1_cons]
    by_cases he : blobOutcome (results i) = .err
    · rw [if_pos he] at hr ⊢
      subst hr
      simp [done, blobOutcome_err_ne_none _ he]
    · rw [if_neg he] at hr ⊢
      obtain ⟨a, b, c⟩ := forFrom_v1 hb k (i + 1) _ rfl hr
      exact ⟨a, by rw [b, List.append_assoc]; rfl, by rw [c, Nat.add_assoc, Nat.add_comm 1]⟩

/-- v1 `createPartitions(count)`: an error is returned iff the model says so, with the model's events and number of
uploads - the run stops at the first upload that fails for a reason other than "exists already" -/
theorem trans_C18_createPartitions_v1 (count : Nat) (results : Nat → SdkErr) :
    ((v1_lm_createPartitions count results).err != .none, (v1_lm_createPartitions count results).ev,
      (v1_lm_createPartitions count results).calls) = createV1 ((List.range count).map results) := by
  obtain ⟨a, b, c⟩ := forFrom_v1 (r := v1_lm_createPartitions count results) (results := results)
    (fun i st => by
      unfold blobEvent
      cases h : results i with
      | none | other => rfl
      | storage code =>
        rw [blobOutcome_storage]
        by_cases h1 : code = "BlobAlreadyExists" ∨ code = "LeaseIdMissing" <;> simp [h1]) count 0 {} rfl rfl
  rw [a, b, c, List.range_eq_range']
  simp

example : (v1_lm_createPartitions 3 (fun i => if i = 1 then .storage "BlobAlreadyExists" else .none)).ev
    = [.createdBlob 0, .verifiedBlob 1, .createdBlob 2] := by decide +kernel
example : (v1_lm_createPartitions 3 (fun i => if i = 1 then .other else .none)).calls = 2 := by decide +kernel
example : (v2_lm_CreatePartitions 3 (fun i => if i = 1 then .other else .none)).ev = [.createdBlob 0, .error, .createdBlob 2] := by decide +kernel
example : (v2_lm_LeasePartition 7 (.storage "LeaseAlreadyPresent")).ev = [.failed 7] ∧ (v2_lm_LeasePartition 7 .none).secs = 15 := by decide +kernel

end GoBatcher.ExpectTransLm
