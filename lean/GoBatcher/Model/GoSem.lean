/-
GoSem: the meaning given to the Go subset that /verif/extract/trans.go translates (Generated/Trans.lean).

Every Go integer is a Lean `Int`. `uint32` arithmetic wraps: the translator writes `u32 (a + b)` for every uint32
`+ - *` and for every conversion to uint32. `int` and `time.Duration` are unbounded here (64-bit overflow is
not modelled). `math.Ceil(float64(a) / float64(b))` on uint32 operands is the integer ceiling; that IEEE doubles
compute exactly this for all uint32 a, b > 0 is tested by the harness (float sweep), not proved. For b = 0 the
Go result (+Inf / NaN converted to an integer) is implementation-specific: `goCeilDiv a 0 = 0` is a placeholder
and every theorem about it assumes b > 0.
-/
namespace GoBatcher.GoSem

def u32 (x : Int) : Int := x % 4294967296

/-- Go's `/` on integers truncates toward zero (division by zero panics in Go; not modelled) -/
def goDiv (a b : Int) : Int := Int.tdiv a b

def goCeilDiv (a b : Int) : Int := if b = 0 then 0 else (a + b - 1) / b

theorem u32_of_range {x : Int} (h0 : 0 ≤ x) (h1 : x < 4294967296) : u32 x = x := by
  unfold u32; omega

theorem u32_nonneg (x : Int) : 0 ≤ u32 x := by unfold u32; omega
theorem u32_lt (x : Int) : u32 x < 4294967296 := by unfold u32; omega

theorem u32_natCast {n : Nat} (h : n < 4294967296) : u32 (n : Int) = n := u32_of_range (Int.natCast_nonneg n) (by omega)

/-- uint32 addition of an operand that was itself converted to uint32 -/
theorem u32_add_u32 (a b : Int) : u32 (a + u32 b) = u32 (a + b) := Int.add_emod_emod ..

/-- a Go integer that holds a natural number, compared with a constant of the source (`no_index`: simp's index keys a
numeral as that literal, so the pattern `OfNat.ofNat k` would never be found) -/
theorem natCast_eq_ofNat {n k : Nat} : ((n : Int) = (no_index (OfNat.ofNat k) : Int)) ↔ n = OfNat.ofNat k :=
  Int.natCast_inj

theorem natCast_lt_ofNat {n k : Nat} : ((n : Int) < (no_index (OfNat.ofNat k) : Int)) ↔ n < OfNat.ofNat k :=
  Int.ofNat_lt

theorem ofNat_lt_natCast {n k : Nat} : ((no_index (OfNat.ofNat k) : Int) < (n : Int)) ↔ OfNat.ofNat k < n :=
  Int.ofNat_lt

end GoBatcher.GoSem
