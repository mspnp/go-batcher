/-
M-Locks: the lock discipline of the shared state of both generations, as a table of guards per field, checked
against the access table that /verif/extract/locks.go regenerates from /repo on every run
(`Facts.v1_accesses`, `Facts.v2_accesses`: every access to a receiver field with the locks held lexically there).

A guard says how a field is protected once the object is shared between goroutines:
* `mutex m`      every access holds `m` (writes exclusively, reads at least shared);
* `atomic`       every access goes through sync/atomic;
* `frozen ws`    the field is assigned only at initialisation time — by the `With…` setters / `applyDefaults`
                 (which run before the object is started) or by the functions `ws`, which assign it before the
                 goroutines that read it are started (`go` statement = happens-before) and under the lock that any
                 concurrent API reader takes; afterwards it is only read (channels, mutexes, condition variables and
                 interfaces carry their own synchronisation);
* `confined fs`  the field is only touched by the functions `fs`, which all run on the one processing goroutine.

What this gives: two accesses to the same field, at least one of them a write, that can happen concurrently
after initialisation hold a common mutex (the writer exclusively), or are both atomic, or run on the same
goroutine (`conflict_free`). That a program with this property has no data race in the Go memory model is the
classical lockset argument; it is NOT proved here (trusted base), and the lexical reading of `Lock(); defer
Unlock()` by the extractor is trusted as well.
-/
namespace GoBatcher

structure Access where
  strct : String
  func : String
  field : String
  write : Bool
  atomic : Bool
  locks : List String
deriving DecidableEq, Repr

def Access.ofTuple (t : String × String × String × Bool × Bool × List String) : Access :=
  { strct := t.1, func := t.2.1, field := t.2.2.1, write := t.2.2.2.1, atomic := t.2.2.2.2.1, locks := t.2.2.2.2.2 }

inductive Guard where
  | mutex (m : String)
  | atomic
  | frozen (writers : List String)
  | confined (funcs : List String)
deriving DecidableEq, Repr

/-- functions that only run while the object is being configured, before it is started or shared -/
def initFn (f : String) : Bool := f.startsWith "With" || f.startsWith "with" || f == "applyDefaults"

def Access.ok (a : Access) : Guard → Bool
  | .mutex m => initFn a.func || (if a.write then a.locks.contains (m ++ ":X")
                                  else a.locks.contains (m ++ ":X") || a.locks.contains (m ++ ":S"))
  | .atomic => a.atomic || initFn a.func
  | .frozen ws => !a.write || ws.contains a.func || initFn a.func
  | .confined fs => fs.contains a.func

def guardV2 (strct field : String) : Guard :=
  if strct == "EventerBase" && field == "listeners" then .mutex "listenerMutex"
  else if strct == "batcher" && field == "phase" then .mutex "phaseMutex"
  else if strct == "batcher" && field == "target" then .mutex "targetMutex"
  else if strct == "batcher" && field == "lastFlushWithRecords" then .confined ["Start$lit", "processBatch"]
  else if strct == "buffer" && !(field == "lock" || field == "notFull") then .mutex "lock"
  else if strct == "sharedResource" && field == "phase" then .mutex "phaseMutex"
  else if strct == "sharedResource" && field == "partitions" then .mutex "partlock"
  else if strct == "sharedResource" && (field == "capacity" || field == "target" || field == "sharedCapacity"
      || field == "reservedCapacity") then .atomic
  else if strct == "sharedResource" && (field == "factor" || field == "maxInterval" || field == "provision") then .frozen ["Start"]
  else if strct == "operation" && field == "attempt" then .atomic
  else if strct == "azureBlobLeaseManager" && field == "container" then .frozen ["Provision"]
  else if strct == "azureBlobLeaseManager" && field == "eventer" then .frozen ["RaiseEventsTo"]
  else .frozen []

def guardV1 (strct field : String) : Guard :=
  if strct == "eventer" && field == "listeners" then .mutex "listenerMutex"
  else if strct == "Batcher" && field == "phase" then .mutex "phaseMutex"
  else if strct == "Batcher" && field == "target" then .mutex "targetMutex"
  else if strct == "Batcher" && field == "stop" then .frozen ["Start"]
  else if strct == "AzureSharedResource" && field == "phase" then .mutex "phaseMutex"
  else if strct == "AzureSharedResource" && field == "partitions" then .mutex "partlock"
  else if strct == "AzureSharedResource" && (field == "capacity" || field == "target") then .atomic
  else if strct == "AzureSharedResource" && (field == "factor" || field == "maxInterval") then .frozen ["Provision"]
  else if strct == "AzureSharedResource" && field == "stop" then .frozen ["Start"]
  else if strct == "Operation" && field == "attempt" then .atomic
  else if strct == "azureBlobLeaseManager" && field == "container" then .frozen ["provision"]
  else if strct == "azureBlobLeaseManager" && field == "parent" then .frozen ["provision", "raiseEventsTo"]
  else .frozen []

def tableOk (guard : String → String → Guard) (tab : List Access) : Bool :=
  tab.all fun a => a.ok (guard a.strct a.field)

/-- may the two accesses run concurrently with the object shared? (both after initialisation) -/
def concurrentCandidates (a b : Access) : Bool := !initFn a.func && !initFn b.func

/-- the pairwise statement the guards add up to -/
def pairOk (g : Guard) (a b : Access) : Bool :=
  match g with
  | .mutex m =>
    (if a.write then a.locks.contains (m ++ ":X") else a.locks.contains (m ++ ":X") || a.locks.contains (m ++ ":S")) &&
    (if b.write then b.locks.contains (m ++ ":X") else b.locks.contains (m ++ ":X") || b.locks.contains (m ++ ":S"))
  | .atomic => a.atomic && b.atomic
  | .frozen ws => (!a.write || ws.contains a.func) && (!b.write || ws.contains b.func)
  | .confined fs => fs.contains a.func && fs.contains b.func

/-- generic: a table that respects its guards has no unsynchronised conflicting pair -/
theorem conflict_free (guard : String → String → Guard) (tab : List Access) (h : tableOk guard tab = true)
    (a b : Access) (ha : a ∈ tab) (hb : b ∈ tab) (hs : a.strct = b.strct) (hf : a.field = b.field)
    (hc : concurrentCandidates a b = true) : pairOk (guard a.strct a.field) a b = true := by
  have oka := List.all_eq_true.1 h a ha
  have okb := List.all_eq_true.1 h b hb
  rw [← hs, ← hf] at okb
  simp only [concurrentCandidates, Bool.and_eq_true, Bool.not_eq_true'] at hc
  -- neither access is made while the object is configured, so each obeys the guard itself; `pairOk` asks that of both
  cases hg : guard a.strct a.field with
    simp only [hg, Access.ok, hc.1, hc.2, Bool.false_or, Bool.or_false] at oka okb
  | _ => simp only [pairOk, oka, okb, Bool.and_self]

end GoBatcher
