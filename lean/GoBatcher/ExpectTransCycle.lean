import GoBatcher.Generated.TransCycle
import GoBatcher.Lemmas.Cycle
/-!
ONE iteration of the flush-cycle loop, TRANSLATED from `/repo/v2/batcher.go` and `/repo/batcher.go` on every run
(`Generated/TransCycle.lean`, by /verif/extract/transcycle.go), is the model's `stepOp` (Model/Cycle.lean) - the
function every theorem about a cycle (C01 C02 C05 C08 C10) is about: same decision (cut-off / skip for lack of a slot
/ take), same cost released, same slot reservation, same batch raised, same open batch kept, and the buffer call
(`skip()` leaves the operation, `remove()` takes it out) that goes with it.
-/
namespace GoBatcher.ExpectTransCycle
open GoSem CySem TransCycle

/-- what the loop body reads, in terms of the model's cycle state: the open batch of the operation's watcher is the
map entry `batches[watcher]` (absent or set to nil after a full batch = no open batch) -/
def cyIn (c : Cfg) (a : Acc) (avail : Bool) (op : Op) : CyIn :=
  { enforce := c.limited, capacity := c.allow, consumed := a.consumed, batchable := op.batchable, cost := op.cost,
    maxB := c.mb op.w, bnil := (lookupB op.w a.openB).isNone, ok := (lookupB op.w a.openB).isSome,
    blen := ((lookupB op.w a.openB).getD []).length, avail := avail }

/-- the batch-size test as the translated body makes it, on `int` -/
theorem isFull_int {c : Cfg} {w n : Nat} :
    isFull c w (n + 1) = true ↔ (0 : Int) < c.mb w ∧ (c.mb w : Int) ≤ (n : Int) + 1 := by
  rw [isFull_iff]; omega

/-- while the cut-off does not hold the limiter plays no part in the body -/
theorem cycleBody_unlimited (i : CyIn) (h : i.enforce = true → ¬ i.consumed ≥ i.capacity) :
    cycleBody i = cycleBody { i with enforce := false } := by
  cases he : i.enforce with
  | false => cases i; cases he; rfl
  | true => unfold cycleBody; simp only [he, if_true, if_neg (h he), Bool.false_eq_true, if_false]

theorem trans_C01_C02_C05_C08_C10_cycleBody_is_stepOp (c : Cfg) (a : Acc) (avail : Bool) (op : Op)
    (hge : c.ge = true) (hw : a.consumed + op.cost < 4294967296) :
    match stepOp c a avail op with
    | .stop => (cycleBody (cyIn c a avail op)).action = 1 ∧ (cycleBody (cyIn c a avail op)).bufCall = 0
    | .skip =>
      (cycleBody (cyIn c a avail op)).bufCall = 1 ∧ (cycleBody (cyIn c a avail op)).consumed = a.consumed ∧
      (cycleBody (cyIn c a avail op)).reserved = false ∧ (cycleBody (cyIn c a avail op)).raisedLen = 0 ∧
      (cycleBody (cyIn c a avail op)).stored = false
    | .take a' out slot =>
      (cycleBody (cyIn c a avail op)).bufCall = 2 ∧ (cycleBody (cyIn c a avail op)).action = 0 ∧
      (cycleBody (cyIn c a avail op)).consumed = a'.consumed ∧ (cycleBody (cyIn c a avail op)).reserved = slot ∧
      (cycleBody (cyIn c a avail op)).raisedLen = ((out.map (·.2.length)).getD 0 : Nat) ∧
      (cycleBody (cyIn c a avail op)).stored = op.batchable ∧
      (op.batchable = true → (cycleBody (cyIn c a avail op)).storeLen =
        (match out with | some _ => 0 | none => (((lookupB op.w a.openB).getD []).length + 1 : Nat))) := by
  have hu : u32 ((a.consumed : Int) + (op.cost : Int)) = (a.consumed : Int) + (op.cost : Int) := by
    rw [← Int.natCast_add, u32_natCast hw]
  have hs := stepOp_spec c a avail op
  -- past the cut-off test the body is the unlimited one
  have hun (hc : cutoff c a.consumed = false) :
      cycleBody (cyIn c a avail op) = cycleBody { cyIn c a avail op with enforce := false } :=
    cycleBody_unlimited _ fun he => Int.not_le.mpr (Int.ofNat_lt.mpr (((cutoff_false he).mp hc).1 hge))
  generalize stepOp c a avail op = r at hs ⊢
  cases r with
  | stop =>
    obtain ⟨hlim, hk, -⟩ := cutoff_iff.mp hs
    simp [cycleBody, cyIn, hlim, hk hge]
  | skip =>
    obtain ⟨hc, hav, hl⟩ := hs
    subst hav
    rw [hun hc]
    cases hb : op.batchable <;> simp [cycleBody, cyIn, hb, hl]
  | take a' out slot =>
    obtain ⟨hc, hav, ht⟩ := hs
    rw [hun hc]
    cases ht with
    | single hb => simp [cycleBody, cyIn, hb, hav rfl, hu]
    | fills hb hf =>
      have hf := isFull_int.mp hf
      cases hl : lookupB op.w a.openB <;> simp [hl, openOf] at hav hf <;>
        simp [cycleBody, cyIn, openOf, hb, hav, hu, hl, hf]
    | joins hb hf =>
      have hf := not_and.mp (mt isFull_int.mpr (Bool.eq_false_iff.mp hf))
      cases hl : lookupB op.w a.openB <;> simp [hl, openOf, -Int.not_le] at hav hf <;> by_cases hm : 0 < c.mb op.w <;>
        simp [cycleBody, cyIn, hb, hav, hu, hl, hm, hf]

/-- after a full batch the map entry of the watcher is `nil` but PRESENT (`batch == nil`, `ok == true`), which the model
does not tell apart from an absent entry: the body does not either - with a nil batch `ok` is not even looked at -/
theorem trans_C05_C10_cycleBody_nil_entry (i : CyIn) (h : i.bnil = true) (x : Bool) :
    cycleBody { i with ok := x } = cycleBody i := by
  simp [cycleBody, h]

theorem cycleBodyV1_unlimited (i : CyIn) (h : i.enforce = true → ¬ i.consumed > i.capacity) :
    cycleBodyV1 i = cycleBodyV1 { i with enforce := false } := by
  cases he : i.enforce with
  | false => cases i; cases he; rfl
  | true => unfold cycleBodyV1; simp only [he, if_true, if_neg (h he), Bool.false_eq_true, if_false]

/-- v1: the same for the loop `Fill:` of /repo/batcher.go - the cut-off is `consumed > capacity` (the model's `ge = false`),
there are no slots (`avail = true`; the model's slot flag has no meaning in v1), and the operation has already left
the channel when the body runs (buffer call 2 on every path that is not the cut-off) -/
theorem trans_C01_C02_C05_C08_cycleBody_is_stepOp_v1 (c : Cfg) (a : Acc) (op : Op)
    (hge : c.ge = false) (hw : a.consumed + op.cost < 4294967296) :
    match stepOp c a true op with
    | .stop => (cycleBodyV1 (cyIn c a true op)).action = 1 ∧ (cycleBodyV1 (cyIn c a true op)).bufCall = 0
    | .skip => False
    | .take a' out _ =>
      (cycleBodyV1 (cyIn c a true op)).bufCall = 2 ∧ (cycleBodyV1 (cyIn c a true op)).action = 0 ∧
      (cycleBodyV1 (cyIn c a true op)).consumed = a'.consumed ∧
      (cycleBodyV1 (cyIn c a true op)).raisedLen = ((out.map (·.2.length)).getD 0 : Nat) ∧
      (cycleBodyV1 (cyIn c a true op)).stored = op.batchable ∧
      (op.batchable = true → (cycleBodyV1 (cyIn c a true op)).storeLen =
        (match out with | some _ => 0 | none => (((lookupB op.w a.openB).getD []).length + 1 : Nat))) := by
  have hu : u32 ((a.consumed : Int) + (op.cost : Int)) = (a.consumed : Int) + (op.cost : Int) := by
    rw [← Int.natCast_add, u32_natCast hw]
  have hs := stepOp_spec c a true op
  have hun (hc : cutoff c a.consumed = false) :
      cycleBodyV1 (cyIn c a true op) = cycleBodyV1 { cyIn c a true op with enforce := false } :=
    cycleBodyV1_unlimited _ fun he => Int.not_lt.mpr (Int.ofNat_le.mpr (((cutoff_false he).mp hc).2 hge))
  generalize stepOp c a true op = r at hs ⊢
  cases r with
  | stop =>
    obtain ⟨hlim, -, hk⟩ := cutoff_iff.mp hs
    simp [cycleBodyV1, cyIn, hlim, hk hge]
  | skip => cases hs.2.1
  | take a' out slot =>
    obtain ⟨hc, -, ht⟩ := hs
    rw [hun hc]
    cases ht with
    | single hb => simp [cycleBodyV1, cyIn, hb, hu]
    | fills hb hf =>
      have hf := isFull_int.mp hf
      simp [openOf] at hf
      simp [cycleBodyV1, cyIn, openOf, hb, hu, hf]
    | joins hb hf =>
      have hf := not_and.mp (mt isFull_int.mpr (Bool.eq_false_iff.mp hf))
      by_cases hm : 0 < c.mb op.w <;> simp [openOf, -Int.not_le] at hf <;>
        simp [cycleBodyV1, cyIn, hb, hu, hm, hf]

/-- non-vacuity: a batchable operation that fills its watcher's batch of 2 -/
example :
    let op : Op := { id := 1, obj := 1, w := 0, cost := 3, batchable := true }
    let c : Cfg := { ge := true, limited := true, allow := 10, mb := fun _ => 2 }
    let a : Acc := { consumed := 4, openB := [(0, [{ id := 0, obj := 0, w := 0, cost := 4, batchable := true }])] }
    (cycleBody (cyIn c a true op)).raisedLen = 2 ∧ (cycleBody (cyIn c a true op)).consumed = 7 ∧
    (cycleBody (cyIn c a true op)).bufCall = 2 ∧ (cycleBody (cyIn c a true op)).reserved = false := by decide

end GoBatcher.ExpectTransCycle
