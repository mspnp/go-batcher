import GoBatcher.Lemmas.Batcher
/-! The structural invariants of M-Batcher: batch ids (`IdsOK`), deadlines (`TimeOK`), the calls inside Enqueue (`PendOK`),
what a shutdown discarded (`QuietOK`), no loop before Start (`StartOK`), each with the theorem `step_*` that every step keeps
it; bundled (`Inv`) and lifted to every reachable state. -/
namespace GoBatcher

def IdsOK (s : St) : Prop := (∀ b ∈ s.batches, b.id < s.nextBatch) ∧ (s.batches.map (·.id)).Nodup

theorem raise_idsOK (c : BCfg) (s : St) (p : Batch) (h : IdsOK s) : IdsOK (raise c s p) := by
  rcases raise_cases c s p with ⟨_, hr⟩ | hr <;> rw [hr]
  · exact h
  · refine ⟨List.forall_mem_append.mpr ⟨fun b hb => Nat.lt_succ_of_lt (h.1 b hb), by simp⟩, ?_⟩
    rw [List.map_append]
    refine List.nodup_append.mpr ⟨h.2, by simp, fun a ha b hb e => ?_⟩
    obtain ⟨x, hx, rfl⟩ := List.mem_map.mp ha
    exact Nat.ne_of_lt (h.1 x hx) (e.trans (by simpa using hb))

theorem idsOK_map {s s' : St} (f : RBatch → RBatch) (hf : ∀ x, (f x).id = x.id)
    (hb : s'.batches = s.batches.map f) (hn : s'.nextBatch = s.nextBatch) (h : IdsOK s) : IdsOK s' := by
  unfold IdsOK at *
  rw [hb, hn, List.map_map]
  exact ⟨List.forall_mem_map.mpr fun x hx => hf x ▸ h.1 x hx, (List.map_congr_left fun x _ => hf x) ▸ h.2⟩

theorem step_idsOK (c : BCfg) (s s' : St) (l : Label) (h : step c s l = some s') (hi : IdsOK s) : IdsOK s' := by
  induction Step.of_step h with
  | cycleRaise | sweepOne => exact raise_idsOK c s _ hi
  | cbReturn | finish => exact idsOK_map _ (fun x => by split <;> rfl) rfl rfl hi
  | setCost => exact idsOK_map (fun b => { b with ops := b.ops.map (reCost _ _) }) (fun _ => rfl) rfl rfl hi
  | _ => assumption

/-- Urgency and provenance of deadlines: an unfinished batch is not overdue; every batch was raised at or before the last
flush and its deadline is the raise plus its limit. So once more than the longest limit has passed since the last flush,
every batch is finished - what the audit relies on (`audit_all_finished`). -/
def TimeOK (c : BCfg) (s : St) : Prop :=
  (∀ b ∈ s.batches, b.finished = false → s.now ≤ b.deadline) ∧
  (∀ b ∈ s.batches, ∃ t, s.lastFlush = some t ∧ b.raisedAt ≤ t ∧ b.deadline = b.raisedAt + effMot c b.w) ∧
  (∀ t, s.lastFlush = some t → t ≤ s.now)

theorem raise_timeOK (c : BCfg) (s : St) (p : Batch) (h : TimeOK c s) : TimeOK c (raise c s p) := by
  rcases raise_cases c s p with ⟨_, hr⟩ | hr <;> rw [hr]
  · exact h
  · obtain ⟨h1, h2, h3⟩ := h
    refine ⟨List.forall_mem_append.mpr ⟨h1, by simp⟩, List.forall_mem_append.mpr ⟨fun b hb => ?_, by simp⟩, by simp⟩
    obtain ⟨t, ht, hr, hd⟩ := h2 b hb
    exact ⟨s.now, rfl, Nat.le_trans hr (h3 t ht), hd⟩

theorem timeOK_map {c : BCfg} {s s' : St} (f : RBatch → RBatch)
    (hf : ∀ x, (f x).raisedAt = x.raisedAt ∧ (f x).deadline = x.deadline ∧ (f x).w = x.w ∧ ((f x).finished = false → x.finished = false))
    (hb : s'.batches = s.batches.map f) (hn : s'.now = s.now) (hl : s'.lastFlush = s.lastFlush)
    (h : TimeOK c s) : TimeOK c s' := by
  unfold TimeOK at *
  rw [hb, hn, hl]
  refine ⟨List.forall_mem_map.mpr fun x hx hfin => (hf x).2.1 ▸ h.1 x hx ((hf x).2.2.2 hfin),
    List.forall_mem_map.mpr fun x hx => ?_, h.2.2⟩
  rw [(hf x).1, (hf x).2.1, (hf x).2.2.1]
  exact h.2.1 x hx

theorem step_timeOK (c : BCfg) (s s' : St) (l : Label) (h : step c s l = some s') (hi : TimeOK c s) : TimeOK c s' := by
  induction Step.of_step h with
  | advance ha =>
    exact ⟨fun b hb hf => ((canAdvance_spec ha).batches b hb hf).2, hi.2.1,
      fun t ht => Nat.le_trans (hi.2.2 t ht) (Nat.le_add_right _ _)⟩
  | cycleRaise | sweepOne => exact raise_eq c s _ ▸ raise_timeOK c s _ hi
  | cbReturn | finish => exact timeOK_map _ (fun x => by split <;> simp) rfl rfl rfl hi
  | setCost => exact timeOK_map (fun b => { b with ops := b.ops.map (reCost _ _) }) (fun _ => by simp) rfl rfl rfl hi
  | _ => assumption

/-- at an audit that fires (`auditCond`) every batch has finished, given healthy watchers: more than MaxOperationTime
has passed since the last flush, and no deadline lies further than that behind it -/
theorem audit_all_finished (c : BCfg) (s : St) (hw : ∀ w, effMot c w ≤ c.mot) (hcond : auditCond c s = true)
    (ht : TimeOK c s) : s.batches.filter (fun b => !b.finished) = [] := by
  refine List.filter_eq_nil_iff.mpr fun b hb hf => ?_
  obtain ⟨t, hlt, hr, hd⟩ := ht.2.1 b hb
  have hlive := ht.1 b hb (by simpa using hf)
  have hlate := (Bool.and_eq_true_iff.mp hcond).2
  rw [hlt] at hlate
  have := of_decide_eq_true hlate
  have := hw b.w
  -- unfinished, so now ≤ deadline = raised + limit ≤ last flush + MaxOperationTime < now
  omega

/-- calls inside Enqueue: distinct, and every blocked / woken caller is one of them -/
def PendOK (s : St) : Prop :=
  (s.pend.map (·.1)).Nodup ∧ ((s.bm.waiting ++ s.bm.woken).map (·.1)).Nodup ∧
  (∀ p ∈ s.bm.waiting ++ s.bm.woken, p ∈ s.pend)

/-- `PendOK` on the two lists it reads: the calls inside Enqueue and, among them, those blocked or woken.
`PendOK s` is `PendL s.pend (s.bm.waiting ++ s.bm.woken)` by definition. -/
def PendL (pend blocked : List (Nat × Op)) : Prop :=
  (pend.map (·.1)).Nodup ∧ (blocked.map (·.1)).Nodup ∧ ∀ p ∈ blocked, p ∈ pend

theorem any_key_false {k : Nat} {l : List (Nat × Op)} (h : l.any (·.1 == k) = false) : k ∉ l.map (·.1) := by
  intro hm
  obtain ⟨p, hp, rfl⟩ := List.mem_map.mp hm
  exact Bool.false_ne_true (h ▸ List.any_eq_true.mpr ⟨p, hp, beq_self_eq_true _⟩)

namespace PendL
variable {pend blocked blocked' : List (Nat × Op)} {k : Nat} {op : Op} {w : Nat × Op}

theorem perm (h : PendL pend blocked) (hw : blocked'.Perm blocked) : PendL pend blocked' :=
  ⟨h.1, (hw.map _).nodup_iff.mpr h.2.1, fun p hp => h.2.2 p (hw.subset hp)⟩

theorem sublist (h : PendL pend blocked) (hw : blocked'.Sublist blocked) : PendL pend blocked' :=
  ⟨h.1, (hw.map _).nodup h.2.1, fun p hp => h.2.2 p (hw.subset hp)⟩

theorem leave (h : PendL pend blocked) (hk : k ∉ blocked.map (·.1)) : PendL (removePend k pend) blocked :=
  ⟨removePend_nodup k _ h.1, h.2.1, fun p hp =>
    List.mem_filter.mpr ⟨h.2.2 p hp, bne_iff_ne.mpr fun e => hk (e ▸ List.mem_map_of_mem hp)⟩⟩

theorem block (h : PendL pend blocked) (hm : (k, op) ∈ pend) (hk : k ∉ blocked.map (·.1)) :
    PendL pend ((k, op) :: blocked) :=
  ⟨h.1, List.nodup_cons.mpr ⟨hk, h.2.1⟩, fun p hp => (List.mem_cons.mp hp).elim (· ▸ hm) (h.2.2 p)⟩

theorem head (h : PendL pend (w :: blocked)) : PendL pend blocked ∧ w ∈ pend ∧ w.1 ∉ blocked.map (·.1) :=
  ⟨h.sublist (List.sublist_cons_self ..), h.2.2 w List.mem_cons_self, (List.nodup_cons.mp h.2.1).1⟩

end PendL

theorem unwake_perm (s : St) {w : Nat × Op} (hw : w ∈ s.bm.woken) :
    (w :: ((unwake s w).bm.waiting ++ (unwake s w).bm.woken)).Perm (s.bm.waiting ++ s.bm.woken) :=
  List.perm_middle.symm.trans ((List.perm_cons_erase hw).symm.append_left _)

/-- the woken caller `w` that `enqAdmit k` finds, set apart: it is call `k`, inside Enqueue and no longer blocked -/
theorem woken_pendOK {s : St} {k : Nat} {w : Nat × Op} (h : PendOK s) (hf : s.bm.woken.find? (·.1 == k) = some w) :
    PendOK (unwake s w) ∧ (k, w.2) ∈ (unwake s w).pend ∧
      k ∉ ((unwake s w).bm.waiting ++ (unwake s w).bm.woken).map (·.1) := by
  have hk : w.1 = k := by simpa using List.find?_some hf
  exact hk ▸ (PendL.perm h (unwake_perm s (List.mem_of_find?_eq_some hf))).head

theorem pendOK_bufOnly {s s' : St} (hp : s'.pend = s.pend) (hw : s'.bm.waiting = s.bm.waiting)
    (hk : s'.bm.woken = s.bm.woken) (h : PendOK s) : PendOK s' := by
  unfold PendOK at *; rw [hp, hw, hk]; exact h

/-- the caller `Signal()` wakes stays blocked; the v1 sender whose Enqueue succeeds leaves Enqueue -/
theorem afterTake_pendOK (c : BCfg) (s : St) (i a : Nat) (acc : Acc) (sl : Bool) (h : PendOK s) :
    PendOK (afterTake c s i a acc sl) := by
  unfold PendOK at *
  rcases afterTake_cases c s i a acc sl rfl with ⟨-, h2, -, h4⟩ | ⟨k, op, h1, h2, -, h4, -⟩
  · rw [h2]; exact PendL.perm h h4
  · rw [h1] at h
    rw [h4, h2]
    exact (PendL.head h).1.leave (PendL.head h).2.2

theorem doSetCost_pendOK (s : St) (obj cost : Nat) (h : PendOK s) : PendOK (doSetCost s obj cost) := by
  unfold PendOK doSetCost at *
  obtain ⟨h1, h2, h3⟩ := h
  refine ⟨?_, ?_, ?_⟩
  · simpa [List.map_map, Function.comp_def] using h1
  · simpa [List.map_map, Function.comp_def] using h2
  · intro p hp
    rw [← List.map_append] at hp
    obtain ⟨q, hq, rfl⟩ := List.mem_map.mp hp
    exact List.mem_map.mpr ⟨q, h3 q hq, rfl⟩

/-- v1 shutdown: every waiting sender panics and leaves Enqueue -/
theorem shutdownV1_pendOK (s : St) (h : PendOK s) : PendOK (shutdownV1 s) := by
  obtain ⟨h1, h2, h3⟩ := h
  rw [List.map_append] at h2
  have hna := List.nodup_append.mp h2
  refine ⟨(List.filter_sublist.map _).nodup h1, hna.2.1, fun p hp => List.mem_filter.mpr ⟨h3 p (List.mem_append_right _ hp), ?_⟩⟩
  simp only [Bool.not_eq_true', List.any_eq_false, beq_iff_eq]
  exact fun q hq e => hna.2.2 q.1 (List.mem_map_of_mem hq) p.1 (List.mem_map_of_mem hp) e

theorem shutdownV2_pendOK (c : BCfg) (s : St) (h : PendOK s) : PendOK (shutdownV2 c s) := by
  unfold shutdownV2
  cases c.wos with
  | false => exact h
  | true => exact PendL.perm h (List.perm_append_comm : (s.bm.woken ++ s.bm.waiting).Perm (s.bm.waiting ++ s.bm.woken))

theorem step_pendOK (c : BCfg) (s s' : St) (l : Label) (h : step c s l = some s') (hi : PendOK s) : PendOK s' := by
  have notIn {k : Nat} (hnw : (s.bm.waiting.any (·.1 == k) || s.bm.woken.any (·.1 == k)) = false) :
      k ∉ (s.bm.waiting ++ s.bm.woken).map (·.1) := by
    rw [Bool.or_eq_false_iff] at hnw
    rw [List.map_append, List.mem_append, not_or]
    exact ⟨any_key_false hnw.1, any_key_false hnw.2⟩
  -- the call that blocks goes to the end of the waiting ones
  have behind {a : Nat × Op} {l₁ l₂ : List (Nat × Op)} : (l₁ ++ [a] ++ l₂).Perm (a :: (l₁ ++ l₂)) := by
    rw [List.append_assoc]; exact List.perm_middle
  induction Step.of_step h with
  | enqCount k op hk =>
    refine ⟨?_, hi.2.1, fun p hp => List.mem_append_left _ (hi.2.2 p hp)⟩
    rw [List.map_append]
    refine List.nodup_append.mpr ⟨hi.1, by simp, fun a ha b hb e => any_key_false hk ?_⟩
    simp only [List.map_cons, List.map_nil, List.mem_singleton] at hb
    exact hb ▸ e ▸ ha
  | insClosedV1 _ hnw | insShutV2 _ hnw | insOk _ hnw | insFull _ hnw => exact PendL.leave hi (notIn hnw)
  | insBlock hf hnw => exact (PendL.block hi (findPend_mem hf) (notIn hnw)).perm behind
  | admitShut hf | admitOk hf => exact PendL.leave (woken_pendOK hi hf).1 (woken_pendOK hi hf).2.2
  | admitBlock hf =>
    exact (PendL.block (woken_pendOK hi hf).1 (woken_pendOK hi hf).2.1 (woken_pendOK hi hf).2.2).perm behind
  | takeStopV1 => exact shutdownV1_pendOK s hi
  | takeStopV2 => exact shutdownV2_pendOK c s hi
  | cycleTake | cycleRaise => exact afterTake_pendOK c s _ _ _ _ hi
  | setCost => exact doSetCost_pendOK s _ _ hi
  | _ => assumption

/-- something has been discarded only by the shutdown of the loop -/
def QuietOK (s : St) : Prop := s.discarded = [] ∨ (s.loop = .exited ∧ s.phase = .stopped)

/-- Phase against loop state, in one pass over the rules: a transition of the loop shows that the Batcher has been started,
and that its loop has not shut down yet, so nothing is discarded. -/
theorem step_start_quiet (c : BCfg) (s s' : St) (l : Label) (h : step c s l = some s') (hs : StartOK s) (hq : QuietOK s) :
    StartOK s' ∧ QuietOK s' := by
  unfold StartOK QuietOK at *
  have started {x : LoopSt} (hl : s.loop = x) (hx : x ≠ .notStarted) : s.phase ≠ .uninit :=
    fun hp => hx (hl ▸ hs hp)
  have left (hne : ¬ (s.loop = .exited ∧ s.phase = .stopped)) : s.discarded = [] := hq.resolve_right hne
  induction Step.of_step h with
  | takeStopV2 => exact ⟨nofun, .inr ⟨rfl, rfl⟩⟩
  | takeStopV1 hl | takePause hl | cycleBegin _ hl | cycleTake hl | cycleRaise hl | scanEnd hl | sweepOne hl
  | cycleEnd hl => exact ⟨fun hp => absurd hp (started hl nofun), .inl (left (by simp [hl]))⟩
  | wake hl => exact ⟨fun hp => absurd (resume_uninit hp) (started hl nofun), .inl (left (by simp [hl]))⟩
  | startCall hp | pauseEff hp => exact ⟨nofun, .inl (left (by simp [hp]))⟩
  | stopEarlyV1 | stopV1 => exact ⟨nofun, hq.imp_right fun h => ⟨h.1, rfl⟩⟩
  | setCost =>
    exact ⟨fun hp => (doSetCost_loop_iff s _ _ (x := .notStarted)).mpr (hs hp),
      hq.imp_right fun h => ⟨(doSetCost_loop_iff s _ _ (x := .exited)).mpr h.1, h.2⟩⟩
  | _ => exact ⟨hs, hq⟩

/-- the structural invariants, bundled only for the induction over runs -/
structure Inv (c : BCfg) (s : St) : Prop where
  ids : IdsOK s
  pend : PendOK s
  time : TimeOK c s
  quiet : QuietOK s
  start : StartOK s

theorem inv_init (c : BCfg) : Inv c (St.init c) := by
  refine ⟨?_, ?_, ?_, ?_, ?_⟩
  · simp [IdsOK, St.init]
  · simp [PendOK, St.init, BufM.new]
  · simp [TimeOK, St.init]
  · simp [QuietOK, St.init]
  · simp [StartOK, St.init]

theorem step_inv (c : BCfg) (s s' : St) (l : Label) (h : step c s l = some s') (hi : Inv c s) : Inv c s' :=
  have hsq := step_start_quiet c s s' l h hi.start hi.quiet
  ⟨step_idsOK c s s' l h hi.ids, step_pendOK c s s' l h hi.pend, step_timeOK c s s' l h hi.time, hsq.2, hsq.1⟩

theorem reachable_inv (c : BCfg) (s : St) (h : Reachable c s) : Inv c s := by
  obtain ⟨ls, hr⟩ := h
  exact run_induct (step_inv c) ls _ s hr (inv_init c)

end GoBatcher
