import GoBatcher.Model.Batcher
import GoBatcher.Lemmas.Run
import GoBatcher.Lemmas.Buffer
/-! The transitions of M-Batcher as rules: `Step c s l s'` has one rule per enabled branch of `step` (branches of
`enqInsert` that differ only in the generation are one rule), with the guard of the branch as premises and the successor
state written out as an update of `s`, so that a rule shows which fields it touches. `Step.of_step` is the inversion of
`step`, done once; an invariant is then proved rule by rule, and the rules that do not touch the fields it reads are
closed by the hypothesis itself. With the label a variable this is `induction` on the rule (no rule is recursive, so
there is no induction hypothesis; unlike `cases` it solves no index equations for the 43 rules, which is most of what a
`cases` costs here); a fact about one given label is read off by `cases`, which selects the rules of that label. Also here:
the open batches of the running cycle (`St.openB`, with `Step.openB_eq`), when Start goes through
(`step_startCall_isSome`), and induction along `run`. -/
namespace GoBatcher

/-! ### which fields the composite actions touch

Rewriting with one of these equations makes every other field of the successor reduce to the field of `s`. -/

theorem raise_eq (c : BCfg) (s : St) (p : Batch) :
    raise c s p = { s with batches := (raise c s p).batches, nextBatch := (raise c s p).nextBatch,
                           lastFlush := (raise c s p).lastFlush } := by
  unfold raise; split <;> rfl

theorem raise_cases (c : BCfg) (s : St) (p : Batch) :
    p.2 = [] ∧ raise c s p = s ∨
    raise c s p = { s with
      batches := s.batches ++ [{ id := s.nextBatch, w := p.1, ops := p.2, raisedAt := s.now,
                                 deadline := s.now + effMot c p.1, cbDone := false, finished := false }],
      nextBatch := s.nextBatch + 1, lastFlush := some s.now } := by
  unfold raise
  split
  · exact .inl ⟨List.isEmpty_iff.mp ‹_›, rfl⟩
  · exact .inr rfl

theorem v1Handoff_eq (s : St) :
    v1Handoff s = { s with bm := (v1Handoff s).bm, pend := (v1Handoff s).pend, inserted := (v1Handoff s).inserted } := by
  unfold v1Handoff; split <;> rfl

/-- taking the cursor operation touches the buffer (and, by the v1 hand-off, the callers inside Enqueue and the log
of accepted operations), the slot count and the loop state, nothing else -/
theorem afterTake_eq (c : BCfg) (s : St) (i a : Nat) (acc : Acc) (sl : Bool) :
    afterTake c s i a acc sl =
      { s with bm := (afterTake c s i a acc sl).bm, pend := (afterTake c s i a acc sl).pend,
               inserted := (afterTake c s i a acc sl).inserted, slots := slotsAfter c s sl, loop := .cycle a acc } := by
  unfold afterTake afterTakeV1
  cases c.gen
  · exact v1Handoff_eq _
  · rfl

/-- `raise` reads none of the fields `afterTake` touches: the two parts of a cycle step that takes an operation and raises a
batch act on disjoint fields -/
theorem raise_afterTake_eq (c : BCfg) (s : St) (i a : Nat) (acc : Acc) (sl : Bool) (p : Batch) :
    raise c (afterTake c s i a acc sl) p =
      { s with bm := (afterTake c s i a acc sl).bm, pend := (afterTake c s i a acc sl).pend,
               inserted := (afterTake c s i a acc sl).inserted, slots := slotsAfter c s sl, loop := .cycle a acc,
               batches := (raise c s p).batches, nextBatch := (raise c s p).nextBatch,
               lastFlush := (raise c s p).lastFlush } := by
  rw [afterTake_eq]; unfold raise; split <;> rfl

/-! ### the rules -/

inductive Step (c : BCfg) (s : St) : Label → St → Prop
  | enqReject (k : Nat) (e : Err) : Step c s (.enqReject k e) s
  | enqCount (k : Nat) (op : Op) (hk : s.pend.any (·.1 == k) = false) :
      Step c s (.enqCount k op) { s with target := s.target + op.cost, pend := s.pend ++ [(k, op)] }
  | insClosedV1 {k : Nat} {op : Op} (hf : findPend k s.pend = some op)
      (hnw : (s.bm.waiting.any (·.1 == k) || s.bm.woken.any (·.1 == k)) = false)
      (hg : c.gen = .v1) (hc : s.closed = true) : Step c s (.enqInsert k) (enqRefuse s k op .shutdown false)
  | insShutV2 {k : Nat} {op : Op} (hf : findPend k s.pend = some op)
      (hnw : (s.bm.waiting.any (·.1 == k) || s.bm.woken.any (·.1 == k)) = false)
      (hg : c.gen = .v2) (hc : s.bm.buf.shut = true) : Step c s (.enqInsert k) (enqRefuse s k op .shutdown c.rollback)
  | insOk {k : Nat} {op : Op} (hf : findPend k s.pend = some op)
      (hnw : (s.bm.waiting.any (·.1 == k) || s.bm.woken.any (·.1 == k)) = false)
      (ho : c.gen = .v1 ∧ s.closed = false ∨ c.gen = .v2 ∧ s.bm.buf.shut = false)
      (hroom : s.bm.buf.items.length < s.bm.buf.cap) : Step c s (.enqInsert k) (enqOk s k op)
  | insFull {k : Nat} {op : Op} (hf : findPend k s.pend = some op)
      (hnw : (s.bm.waiting.any (·.1 == k) || s.bm.woken.any (·.1 == k)) = false)
      (ho : c.gen = .v1 ∧ s.closed = false ∨ c.gen = .v2 ∧ s.bm.buf.shut = false)
      (hroom : ¬ s.bm.buf.items.length < s.bm.buf.cap) (he : c.errorOnFull = true) :
      Step c s (.enqInsert k) (enqRefuse s k op .full c.rollback)
  | insBlock {k : Nat} {op : Op} (hf : findPend k s.pend = some op)
      (hnw : (s.bm.waiting.any (·.1 == k) || s.bm.woken.any (·.1 == k)) = false)
      (ho : c.gen = .v1 ∧ s.closed = false ∨ c.gen = .v2 ∧ s.bm.buf.shut = false)
      (hroom : ¬ s.bm.buf.items.length < s.bm.buf.cap) (he : c.errorOnFull = false) :
      Step c s (.enqInsert k) (enqBlock s k op)
  -- In the three rules of a woken caller `unwake s w` is written out: behind two nested actions it takes a deep unfolding to see
  -- that a field is still the one of `s`, and every invariant that does not read the buffer has to see it for these rules.
  | admitShut {k : Nat} {w : Nat × Op} (hf : s.bm.woken.find? (·.1 == k) = some w)
      (hs : (c.wos && s.bm.buf.shut) = true) :
      Step c s (.enqAdmit k)
        (enqRefuse { s with bm := { s.bm with woken := s.bm.woken.erase w } } k w.2 .shutdown c.rollback)
  | admitBlock {k : Nat} {w : Nat × Op} (hf : s.bm.woken.find? (·.1 == k) = some w)
      (hs : (c.wos && s.bm.buf.shut) = false) (hfull : s.bm.buf.items.length ≥ s.bm.buf.cap) :
      Step c s (.enqAdmit k) (enqBlock { s with bm := { s.bm with woken := s.bm.woken.erase w } } k w.2)
  | admitOk {k : Nat} {w : Nat × Op} (hf : s.bm.woken.find? (·.1 == k) = some w)
      (hs : (c.wos && s.bm.buf.shut) = false) (hroom : ¬ s.bm.buf.items.length ≥ s.bm.buf.cap) :
      Step c s (.enqAdmit k) (enqOk { s with bm := { s.bm with woken := s.bm.woken.erase w } } k w.2)
  | pauseEff (hp : s.phase = .started) :
      Step c s .pauseCall { s with pauseReq := true, phase := .paused, effPauseCalls := s.effPauseCalls + 1 }
  | pauseNoop (hp : s.phase ≠ .started) : Step c s .pauseCall s
  | flushCall : Step c s .flushCall { s with flushReq := true, flushCalls := s.flushCalls + 1 }
  | startCall (hp : s.phase = .uninit) :
      Step c s .startCall { s with phase := .started, loop := .idle, nextF := s.now + c.flushInt,
                                   nextC := s.now + c.capInt, nextA := s.now + c.auditInt }
  | startAgain (hp : s.phase ≠ .uninit) : Step c s .startAgain s
  | stopV2 (hg : c.gen = .v2) : Step c s .stopCall { s with stopReq := true }
  | stopAgainV1 (hg : c.gen = .v1) (hp : s.phase = .stopped) : Step c s .stopCall s
  | stopEarlyV1 (hg : c.gen = .v1) (hp : s.phase = .uninit) : Step c s .stopCall { s with phase := .stopped }
  | stopV1 (hg : c.gen = .v1) (hp : s.phase ≠ .stopped) (hp' : s.phase ≠ .uninit) :
      Step c s .stopCall { s with stopReq := true, phase := .stopped }
  | takeStopV1 (hl : s.loop = .idle) (hr : s.stopReq = true) (hg : c.gen = .v1) : Step c s .takeStop (shutdownV1 s)
  | takeStopV2 (hl : s.loop = .idle) (hr : s.stopReq = true) (hg : c.gen = .v2) : Step c s .takeStop (shutdownV2 c s)
  | takePause (hl : s.loop = .idle) (hr : s.pauseReq = true) :
      Step c s .takePause { s with pauseReq := false, loop := .sleeping (s.now + c.pause), pauses := s.pauses + 1 }
  | wake {u : Nat} (hl : s.loop = .sleeping u) (hu : s.now = u) :
      Step c s .wake { s with loop := .idle, phase := if s.phase == .paused then .started else s.phase }
  | takeAudit (hl : s.loop = .idle) (ht : s.tickA = true) : Step c s .takeAudit (doAudit c s)
  | takeCap (hl : s.loop = .idle) (ht : s.tickC = true) :
      Step c s .takeCap { s with tickC := false,
                                 giveMes := if c.limited then s.giveMes ++ [(s.now, s.target)] else s.giveMes }
  | takeFlushTick (hl : s.loop = .idle) (ht : s.tickF = true) :
      Step c s .takeFlushTick { s with tickF := false, flushReq := true, flushTicksTaken := s.flushTicksTaken + 1 }
  | cycleBegin (allow : Nat) (hl : s.loop = .idle) (hr : s.flushReq = true) :
      Step c s (.cycleBegin allow)
        { s with flushReq := false, loop := .cycle allow { consumed := 0, openB := [] }, cycles := s.cycles + 1,
                 bm := { s.bm with buf := (s.bm.buf.seek 0).1 } }
  | cycleSkip {allow : Nat} {acc : Acc} {i : Nat} {op : Op} (hl : s.loop = .cycle allow acc)
      (hcur : curPos c s = some i) (hop : s.bm.buf.items[i]? = some op)
      (hs : stepOp (cycleCfg c allow) acc (slotFree c s) op = .skip) :
      Step c s .cycleStep { s with bm := { s.bm with buf := s.bm.buf.skip.1 } }
  | cycleTake {allow : Nat} {acc acc' : Acc} {i : Nat} {op : Op} {slot : Bool} (hl : s.loop = .cycle allow acc)
      (hcur : curPos c s = some i) (hop : s.bm.buf.items[i]? = some op)
      (hs : stepOp (cycleCfg c allow) acc (slotFree c s) op = .take acc' none slot) :
      Step c s .cycleStep
        { s with bm := (afterTake c s i allow acc' slot).bm, pend := (afterTake c s i allow acc' slot).pend,
                 inserted := (afterTake c s i allow acc' slot).inserted, slots := slotsAfter c s slot,
                 loop := .cycle allow acc' }
  | cycleRaise {allow : Nat} {acc acc' : Acc} {i : Nat} {op : Op} {p : Batch} {slot : Bool}
      (hl : s.loop = .cycle allow acc) (hcur : curPos c s = some i) (hop : s.bm.buf.items[i]? = some op)
      (hs : stepOp (cycleCfg c allow) acc (slotFree c s) op = .take acc' (some p) slot) :
      Step c s .cycleStep
        { s with bm := (afterTake c s i allow acc' slot).bm, pend := (afterTake c s i allow acc' slot).pend,
                 inserted := (afterTake c s i allow acc' slot).inserted, slots := slotsAfter c s slot,
                 loop := .cycle allow acc', batches := (raise c s p).batches,
                 nextBatch := (raise c s p).nextBatch, lastFlush := (raise c s p).lastFlush }
  | scanEnd {allow : Nat} {acc : Acc} (hl : s.loop = .cycle allow acc) (hd : scanDone c s allow acc = true) :
      Step c s .scanEnd { s with loop := .sweep acc }
  | sweepOne {acc : Acc} {w : Nat} {b : List Op} (hl : s.loop = .sweep acc) (hb : lookupB w acc.openB = some b) :
      Step c s (.sweepOne w)
        { s with batches := (raise c s (w, b)).batches, nextBatch := (raise c s (w, b)).nextBatch,
                 lastFlush := (raise c s (w, b)).lastFlush, loop := .sweep { acc with openB := eraseB w acc.openB } }
  | cycleEnd {acc : Acc} (hl : s.loop = .sweep acc) (he : acc.openB.isEmpty = true) :
      Step c s .cycleEnd { s with loop := .idle }
  | fireF (hr : tickersRunning s = true) (hn : s.now = s.nextF) :
      Step c s .fireF { s with tickF := true, nextF := s.nextF + c.flushInt }
  | fireC (hr : tickersRunning s = true) (hn : s.now = s.nextC) :
      Step c s .fireC { s with tickC := true, nextC := s.nextC + c.capInt }
  | fireA (hr : tickersRunning s = true) (hn : s.now = s.nextA) :
      Step c s .fireA { s with tickA := true, nextA := s.nextA + c.auditInt }
  | cbReturn {b : Nat} (hb : s.batches.any (fun x => x.id == b && !x.cbDone) = true) :
      Step c s (.cbReturn b) (markCbDone s b)
  | finish {b : Nat} {x : RBatch} (hf : s.batches.find? (fun x => x.id == b) = some x) (hx : x.finished = false)
      (hd : x.cbDone = true ∨ x.deadline ≤ s.now) : Step c s (.finish b) (markFinished c s b x)
  | advance {dt : Nat} (ha : canAdvance s dt = true) : Step c s (.advance dt) { s with now := s.now + dt }
  | setCost (obj cost : Nat) : Step c s (.setCost obj cost) (doSetCost s obj cost)

theorem beq_and {α : Type} [BEq α] [LawfulBEq α] {x y : α} {b : Bool} (h : (x == y && b) = true) : x = y ∧ b = true :=
  (Bool.and_eq_true_iff.mp h).imp_left eq_of_beq

theorem and_beq {α : Type} [BEq α] [LawfulBEq α] {x y : α} {b : Bool} (h : (b && x == y) = true) : b = true ∧ x = y :=
  (Bool.and_eq_true_iff.mp h).imp_right eq_of_beq

theorem Step.of_step {c : BCfg} {s s' : St} {l : Label} (h : step c s l = some s') : Step c s l s' := by
  revert s'
  -- one goal per branch of `step`, the conditions on the way to it as hypotheses; a branch that returns `none` is closed by `cases h`
  fun_cases step c s l <;> intro s' h <;> cases h
  · exact .enqReject _ _
  · exact .enqCount _ _ ((Bool.not_eq_true _).mp ‹_›)
  · exact .insClosedV1 ‹_› ((Bool.not_eq_true _).mp ‹_›) ‹_› ‹_›
  · exact .insOk ‹_› ((Bool.not_eq_true _).mp ‹_›) (.inl ⟨‹_›, (Bool.not_eq_true _).mp ‹_›⟩) ‹_›
  · exact .insFull ‹_› ((Bool.not_eq_true _).mp ‹_›) (.inl ⟨‹_›, (Bool.not_eq_true _).mp ‹_›⟩) ‹_› ‹_›
  · exact .insBlock ‹_› ((Bool.not_eq_true _).mp ‹_›) (.inl ⟨‹_›, (Bool.not_eq_true _).mp ‹_›⟩) ‹_› ((Bool.not_eq_true _).mp ‹_›)
  · exact .insShutV2 ‹_› ((Bool.not_eq_true _).mp ‹_›) ‹_› ‹_›
  · exact .insOk ‹_› ((Bool.not_eq_true _).mp ‹_›) (.inr ⟨‹_›, (Bool.not_eq_true _).mp ‹_›⟩) ‹_›
  · exact .insFull ‹_› ((Bool.not_eq_true _).mp ‹_›) (.inr ⟨‹_›, (Bool.not_eq_true _).mp ‹_›⟩) ‹_› ‹_›
  · exact .insBlock ‹_› ((Bool.not_eq_true _).mp ‹_›) (.inr ⟨‹_›, (Bool.not_eq_true _).mp ‹_›⟩) ‹_› ((Bool.not_eq_true _).mp ‹_›)
  · exact .admitShut ‹_› ‹_›
  · exact .admitBlock ‹_› ((Bool.not_eq_true _).mp ‹_›) ‹_›
  · exact .admitOk ‹_› ((Bool.not_eq_true _).mp ‹_›) ‹_›
  · exact .pauseEff (eq_of_beq ‹_›)
  · exact .pauseNoop (ne_of_beq_false ((Bool.not_eq_true _).mp ‹_›))
  · exact .flushCall
  · exact .startCall (eq_of_beq ‹_›)
  · exact .startAgain (ne_of_beq_false ((Bool.not_eq_true _).mp ‹_›))
  · exact .stopV2 ‹_›
  · exact .stopAgainV1 ‹_› (eq_of_beq ‹_›)
  · exact .stopEarlyV1 ‹_› (eq_of_beq ‹_›)
  · next hs hu => exact .stopV1 ‹_› (ne_of_beq_false ((Bool.not_eq_true _).mp hs)) (ne_of_beq_false ((Bool.not_eq_true _).mp hu))
  · next hg _ => exact .takeStopV1 (beq_and hg).1 (beq_and hg).2 ‹_›
  · next hg _ => exact .takeStopV2 (beq_and hg).1 (beq_and hg).2 ‹_›
  · next hg => exact .takePause (beq_and hg).1 (beq_and hg).2
  · exact .wake ‹_› (eq_of_beq ‹_›)
  · next hg => exact .takeAudit (beq_and hg).1 (beq_and hg).2
  · next hg => exact .takeCap (beq_and hg).1 (beq_and hg).2
  · next hg => exact .takeFlushTick (beq_and hg).1 (beq_and hg).2
  · next hg => rw [Buf.top_seek]; exact .cycleBegin _ (beq_and hg).1 (beq_and hg).2
  · exact .cycleSkip ‹_› ‹_› ‹_› ‹_›
  · rw [afterTake_eq]; exact .cycleTake ‹_› ‹_› ‹_› ‹_›
  · rw [raise_afterTake_eq]; exact .cycleRaise ‹_› ‹_› ‹_› ‹_›
  · exact .scanEnd ‹_› ‹_›
  · rw [raise_eq]; exact .sweepOne ‹_› ‹_›
  · exact .cycleEnd ‹_› ‹_›
  · next hg => exact .fireF (and_beq hg).1 (and_beq hg).2
  · next hg => exact .fireC (and_beq hg).1 (and_beq hg).2
  · next hg => exact .fireA (and_beq hg).1 (and_beq hg).2
  · exact .cbReturn ‹_›
  · next hg =>
    simp only [Bool.and_eq_true, Bool.not_eq_true', Bool.or_eq_true, decide_eq_true_eq] at hg
    exact .finish ‹_› hg.1 hg.2
  · exact .advance ‹_›
  · exact .setCost _ _

theorem step_startCall_isSome (c : BCfg) (s : St) : (step c s .startCall).isSome ↔ s.phase = .uninit := by
  -- this `simp only [step]` also derives the equations of `step`, once, for every module that computes `step` at a label
  simp only [step]
  by_cases h : s.phase = .uninit <;> simp [h]

/-! ### the open batches of the running cycle -/

/-- the table watcher ↦ open batch of the cycle in progress; empty outside a cycle -/
def St.openB (s : St) : List Batch :=
  match s.loop with
  | .cycle _ acc => acc.openB
  | .sweep acc => acc.openB
  | _ => []

theorem St.openB_cycle {s : St} {a : Nat} {acc : Acc} (h : s.loop = .cycle a acc) : s.openB = acc.openB := by
  simp only [St.openB, h]

theorem St.openB_sweep {s : St} {acc : Acc} (h : s.loop = .sweep acc) : s.openB = acc.openB := by
  simp only [St.openB, h]

theorem St.openB_idle {s : St} (h : s.loop = .idle) : s.openB = [] := by
  simp only [St.openB, h]

theorem St.openB_doSetCost (s : St) (obj cost : Nat) : (doSetCost s obj cost).openB = reCostB obj cost s.openB := by
  unfold St.openB doSetCost; cases s.loop <;> rfl

/-- before Start there is no loop -/
def StartOK (s : St) : Prop := s.phase = .uninit → s.loop = .notStarted

/-- Only `cycleStep`, `sweepOne` and `setCost` change the open batches: every other transition that changes the loop
state leads from a state without open batches to another one (`startCall` by `StartOK`). The `match` is on `l` alone
(`generalizing := false`), so that it reduces once `cases` has made `l` a constructor. -/
theorem Step.openB_eq {c : BCfg} {s s' : St} {l : Label} (h : Step c s l s') (hst : StartOK s) :
    match (generalizing := false) l with
    | .cycleStep | .sweepOne _ | .setCost _ _ => True
    | _ => s'.openB = s.openB := by
  induction h with
  | cycleSkip | cycleTake | cycleRaise | sweepOne | setCost => trivial
  | startCall hp => simp [St.openB, hst hp]
  | takeStopV1 hl | takeStopV2 hl => simp [St.openB, hl, shutdownV1, shutdownV2]
  | takePause hl | cycleBegin _ hl | wake hl | scanEnd hl => simp [St.openB, hl]
  | cycleEnd hl he => simp [St.openB, hl, List.isEmpty_iff.mp he]
  | _ => rfl

/-! ### runs -/

theorem run_cons {c : BCfg} {s s' : St} {l : Label} {ls : List Label} :
    run c s (l :: ls) = some s' ↔ ∃ s₁, step c s l = some s₁ ∧ run c s₁ ls = some s' := by
  simp only [run, Option.bind_eq_some_iff]

theorem run_induct {c : BCfg} {P : St → Prop} (hstep : ∀ s s' l, step c s l = some s' → P s → P s')
    (ls : List Label) (s s' : St) (h : run c s ls = some s') : P s → P s' :=
  run_induct_of (fun _ => rfl) (fun _ _ _ => rfl) h fun l _ s s' => hstep s s' l

theorem not_reachable_all {c : BCfg} {P : St → Prop} (ls : List Label) {s : St} (hr : run c (St.init c) ls = some s)
    (hn : ¬ P s) : ¬ ∀ s, Reachable c s → P s :=
  fun h => hn (h s ⟨ls, hr⟩)

/-- every step of the run satisfies `P` in the state it is taken from -/
def AllSteps (c : BCfg) (P : St → Label → Prop) : St → List Label → Prop
  | _, [] => True
  | s, l :: ls => P s l ∧ ∀ s', step c s l = some s' → AllSteps c P s' ls

/-- `run_induct` for a property whose preservation needs `Q` of every step taken -/
theorem run_induct_steps {c : BCfg} {Q : St → Label → Prop} {P : St → Prop}
    (hstep : ∀ s s' l, step c s l = some s' → Q s l → P s → P s') :
    ∀ (ls : List Label) (s s' : St), run c s ls = some s' → AllSteps c Q s ls → P s → P s'
  | [], _, _, h, _, hp => by cases h; exact hp
  | _ :: ls, _, _, h, hq, hp => by
    obtain ⟨s₁, hs, hr⟩ := run_cons.mp h
    exact run_induct_steps hstep ls s₁ _ hr (hq.2 s₁ hs) (hstep _ _ _ hs hq.1 hp)

end GoBatcher
