import GoBatcher.Lemmas.BatcherInv
/-! The accounting invariant of M-Batcher (`Acct`, C03) with the theorem that every step keeps it (an operation taken from
the buffer as this ledger and the per-operation one of C01b see it: `afterTake_cost`, `afterTake_count`) and its lifting to runs. -/
namespace GoBatcher

def Acct (s : St) : Prop := s.target = outstanding s

/-- what C03's theorem assumes of a step (each exclusion is a recorded finding or a stated restriction):
* `setCost`: costs are constant;
* v1 after `close(r.buffer)`: an Enqueue that panics has already counted its cost (finding F3), be it a new insert or
  (`takeStop`) a sender blocked on the full channel when it is closed;
* the audit fires while an Enqueue sits between counting and inserting (finding F9). -/
def cleanStep (c : BCfg) (s : St) : Label → Prop
  | .setCost _ _ => False
  | .enqInsert _ => ¬ (c.gen = .v1 ∧ s.closed = true)
  | .takeStop => c.gen = .v1 → s.bm.waiting = []
  | .takeAudit => auditCond c s = true → s.pend = []
  | _ => True

theorem buf_remove_items (b : Buf) (i : Nat) (h : b.cur = some i) : b.remove.1.items = b.items.eraseIdx i :=
  Buf.remove_items h

theorem costOpen_of_loop {s s' : St} (h : s'.loop = s.loop) : costOpen s' = costOpen s := by
  unfold costOpen; rw [h]

/-- the invariant place by place, the open batches read through `St.openB`: the form in which `step_acct` proves it -/
theorem acct_iff (s : St) : Acct s ↔ s.target =
    costL s.bm.buf.items + costPend s.pend + costB s.openB + costUnfinished s.batches + costL s.discarded := by
  unfold Acct outstanding; rw [costOpen_eq]

theorem acct_congr (s s' : St) (ht : s'.target = s.target) (hi : s'.bm.buf.items = s.bm.buf.items) (hp : s'.pend = s.pend)
    (hl : s'.openB = s.openB) (hb : costUnfinished s'.batches = costUnfinished s.batches)
    (hd : s'.discarded = s.discarded) (h : Acct s) : Acct s' := by
  rw [acct_iff] at *; rw [ht, hi, hp, hl, hb, hd]; exact h

theorem costUnfinished_mark (l : List RBatch) (b : Nat) (x : RBatch) (hnd : (l.map (·.id)).Nodup)
    (hx : x ∈ l) (hid : x.id = b) (hf : x.finished = false) :
    costUnfinished (l.map (markFin b)) + batchCost x = costUnfinished l := by
  unfold costUnfinished
  rw [((unfinished_mark l b x hnd hx hid hf).map batchCost).sum_nat, List.map_cons, List.sum_cons, Nat.add_comm]

theorem costUnfinished_map (l : List RBatch) (g : RBatch → RBatch) (hg : ∀ y, (g y).finished = y.finished ∧ (g y).ops = y.ops) :
    costUnfinished (l.map g) = costUnfinished l := by
  unfold costUnfinished
  rw [unfinished_map l g fun y => (hg y).1, List.map_map]
  congr 2
  funext y
  simp only [Function.comp_apply, batchCost, (hg y).2]

theorem raise_costUnfinished (c : BCfg) (s : St) (p : Batch) :
    costUnfinished (raise c s p).batches = costUnfinished s.batches + costL p.2 := by
  rcases raise_cases c s p with ⟨he, hr⟩ | hr <;> rw [hr]
  · rw [he]; rfl
  · simp [costUnfinished_cons, batchCost_eq]

/-- an operation leaves the buffer for the table: its cost stays outstanding; the v1 sender whose Enqueue succeeds in
the same instant only moves its cost from the calls inside Enqueue to the buffer -/
theorem afterTake_cost (c : BCfg) (s : St) (i a : Nat) (acc : Acc) (sl : Bool) {op : Op}
    (hop : s.bm.buf.items[i]? = some op) (hp : PendOK s) :
    costL (afterTake c s i a acc sl).bm.buf.items + costPend (afterTake c s i a acc sl).pend + op.cost
      = costL s.bm.buf.items + costPend s.pend := by
  have hrem := costL_perm (perm_eraseIdx hop)
  rcases afterTake_cases c s i a acc sl rfl with ⟨h1, h2, -⟩ | ⟨k, o, hw, -, h1, h2, -⟩
  · rw [h1, h2, hrem, costL_cons]; omega
  · have := costPend_remove k o s.pend hp.1 (hp.2.2 _ (List.mem_append_left _ (hw ▸ List.mem_cons_self)))
    rw [h1, h2, hrem, costL_cons, costL_append, costL_cons, costL_nil]; omega

theorem afterTake_count (c : BCfg) (s : St) (i a : Nat) (acc : Acc) (sl : Bool) {op : Op}
    (hop : s.bm.buf.items[i]? = some op) (x : Op) :
    (afterTake c s i a acc sl).inserted.count x + s.bm.buf.items.count x
      = s.inserted.count x + (afterTake c s i a acc sl).bm.buf.items.count x + (if op = x then 1 else 0) := by
  have hrem := (perm_eraseIdx hop).count_eq x
  rw [count_cons_ite] at hrem
  rcases afterTake_cases c s i a acc sl rfl with ⟨h1, -, h3, -⟩ | ⟨k, o, -, -, h1, -, h3⟩
  · rw [h1, h3]; omega
  · rw [h1, h3, List.count_append, List.count_append]; omega

/-- so nothing is outstanding then, if no call is in flight either -/
theorem audit_nothing_outstanding (c : BCfg) (s : St) (hw : ∀ w, effMot c w ≤ c.mot)
    (hloop : s.loop = .idle) (hcond : auditCond c s = true) (hpend : s.pend = [])
    (ht : TimeOK c s) (hq : QuietOK s) : outstanding s = 0 := by
  have hitems : s.bm.buf.items = [] := List.isEmpty_iff.mp (Bool.and_eq_true_iff.mp hcond).1
  have hdis : s.discarded = [] := hq.resolve_right fun h => by simp [hloop] at h
  unfold outstanding costUnfinished
  rw [hitems, hpend, costOpen_eq, St.openB_idle hloop, audit_all_finished c s hw hcond ht, hdis]
  rfl

/-- the audit of a healthy Batcher, which sets the demand to zero, leaves it as it is: nothing is outstanding when it fires -/
theorem doAudit_target (c : BCfg) (s : St) (hw : ∀ w, effMot c w ≤ c.mot) (hloop : s.loop = .idle)
    (hpend : auditCond c s = true → s.pend = []) (ht : TimeOK c s) (hq : QuietOK s) (ha : Acct s) :
    (doAudit c s).target = s.target :=
  ite_eq_right_iff.mpr fun hc => (ha.trans (audit_nothing_outstanding c s hw hloop hc (hpend hc) ht hq)).symm

theorem enqOk_acct (s : St) (k : Nat) (op : Op) (hnd : (s.pend.map (·.1)).Nodup) (hm : (k, op) ∈ s.pend) (ha : Acct s) :
    Acct (enqOk s k op) := by
  have := costPend_remove k op s.pend hnd hm
  rw [acct_iff] at ha ⊢
  rw [show (enqOk s k op).openB = s.openB from rfl]
  simp only [enqOk, costL_append, costL_cons, costL_nil]
  omega

theorem enqRefuse_acct (s : St) (k : Nat) (op : Op) (r : EnqRes) (hnd : (s.pend.map (·.1)).Nodup) (hm : (k, op) ∈ s.pend)
    (ha : Acct s) :
    Acct (enqRefuse s k op r true) := by
  have := costPend_remove k op s.pend hnd hm
  rw [acct_iff] at ha ⊢
  rw [show (enqRefuse s k op r true).openB = s.openB from rfl]
  simp only [enqRefuse, decTarget, if_true]
  refine Nat.sub_eq_of_eq_add ?_
  omega

theorem unwake_acct (s : St) (w : Nat × Op) (ha : Acct s) : Acct (unwake s w) :=
  acct_congr s _ rfl rfl rfl rfl rfl rfl ha

/-- The demand equals the cost outstanding, step by step. `PendOK` locates the caller a step speaks of; the audit may zero
the demand because nothing is outstanding then (`TimeOK`, `QuietOK`); `finish` finds its batch once (`IdsOK`). -/
theorem step_acct (c : BCfg) (s s' : St) (l : Label) (h : step c s l = some s')
    (hroll : c.rollback = true) (hw : ∀ w, effMot c w ≤ c.mot) (hclean : cleanStep c s l)
    (hp : PendOK s) (hid : IdsOK s) (ht : TimeOK c s) (hq : QuietOK s) (hst : StartOK s) (ha : Acct s) : Acct s' := by
  have hs := Step.of_step h
  have ho := hs.openB_eq hst
  have hat := doAudit_target c s hw
  have ha' := (acct_iff s).mp ha
  induction hs with
  | setCost => exact hclean.elim
  | enqCount => rw [acct_iff, ho]; simp only [costPend_append, costPend_cons, costPend_nil]; omega
  | insClosedV1 _ _ hg hc => exact absurd ⟨hg, hc⟩ hclean
  | insOk hf => exact enqOk_acct s _ _ hp.1 (findPend_mem hf) ha
  | admitOk hf => exact enqOk_acct _ _ _ hp.1 (woken_pendOK hp hf).2.1 (unwake_acct s _ ha)
  | insShutV2 hf | insFull hf => rw [hroll]; exact enqRefuse_acct s _ _ _ hp.1 (findPend_mem hf) ha
  | admitShut hf => rw [hroll]; exact enqRefuse_acct _ _ _ _ hp.1 (woken_pendOK hp hf).2.1 (unwake_acct s _ ha)
  | takeStopV1 hl _ hg =>
    refine acct_congr s _ rfl rfl ?_ ho rfl rfl ha
    simp only [shutdownV1, hclean hg, List.any_nil, Bool.not_false]
    exact List.filter_eq_self.mpr fun _ _ => rfl
  | takeStopV2 =>
    rw [acct_iff, ho, shutdownV2_buf]; simp only [shutdownV2, Buf.shutdown, costL_nil, costL_append]; omega
  | takeAudit hl => exact acct_congr s _ (hat hl hclean ht hq ha) rfl rfl ho rfl rfl ha
  | cycleSkip => exact acct_congr s _ rfl (Buf.skip_items _) rfl rfl rfl rfl ha
  | @cycleTake allow acc acc' i op slot hl _ hop hstep | @cycleRaise allow acc acc' i op _ slot hl _ hop hstep =>
    have hc := (stepOp_take hstep).2.2.cost
    have hk := afterTake_cost c s i allow acc' slot hop hp
    rw [St.openB_cycle hl] at ha'
    rw [acct_iff]
    simp only [St.openB, optCost, raise_costUnfinished] at hc ⊢
    omega
  | @sweepOne acc w b hl hb =>
    have he := costB_eraseB w acc.openB
    rw [(lookupB_eq_some hb).1] at he
    rw [St.openB_sweep hl] at ha'
    rw [acct_iff]
    simp only [St.openB, raise_costUnfinished]
    omega
  | cbReturn =>
    exact acct_congr s _ rfl rfl rfl ho (costUnfinished_map _ _ fun y => by split <;> exact ⟨rfl, rfl⟩) rfl ha
  | @finish b x hf hx =>
    have hmark := costUnfinished_mark s.batches b x hid.2 (find_batch hf).1 (find_batch hf).2 hx
    rw [acct_iff, ho, markFinished_batches]
    simp only [markFinished]
    refine Nat.sub_eq_of_eq_add ?_
    omega
  | _ => exact acct_congr s _ rfl rfl rfl ho rfl rfl ha

theorem run_acct (c : BCfg) (hroll : c.rollback = true) (hw : ∀ w, effMot c w ≤ c.mot) :
    ∀ (ls : List Label) (s s' : St), run c s ls = some s' → AllSteps c (cleanStep c) s ls →
      Inv c s → Acct s → Acct s' :=
  fun ls s s' h hc hi ha =>
    (run_induct_steps (P := fun s => Inv c s ∧ Acct s)
      (fun s s' l h hq ⟨hi, ha⟩ => ⟨step_inv c s s' l h hi,
        step_acct c s s' l h hroll hw hq hi.pend hi.ids hi.time hi.quiet hi.start ha⟩) ls s s' h hc ⟨hi, ha⟩).2

theorem acct_init (c : BCfg) : Acct (St.init c) := by
  simp [Acct, outstanding, St.init, BufM.new, Buf.new, costOpen, costL]

end GoBatcher
