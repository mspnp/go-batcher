/-! Every machine of the development runs a list of labels in the same way: `run s [] = some s` and
`run s (l :: ls) = (step s l).bind (run · ls)` (both hold by `rfl` for `run`, `lrun`, `BufM.run`, `erun`). What every step
along the list keeps, the run keeps. -/
namespace GoBatcher

theorem run_induct_of {σ lab : Type} {step : σ → lab → Option σ} {run : σ → List lab → Option σ}
    (nil : ∀ s, run s [] = some s) (cons : ∀ s l ls, run s (l :: ls) = (step s l).bind (run · ls))
    {P : σ → Prop} {ls : List lab} {s s' : σ} (h : run s ls = some s')
    (hstep : ∀ l ∈ ls, ∀ s s', step s l = some s' → P s → P s') (hs : P s) : P s' := by
  induction ls generalizing s with
  | nil => exact Option.some.inj ((nil s).symm.trans h) ▸ hs
  | cons l ls ih =>
    obtain ⟨s₁, h₁, h₂⟩ := Option.bind_eq_some_iff.mp ((cons s l ls).symm.trans h)
    exact ih h₂ (fun l' hl' => hstep l' (List.mem_cons_of_mem _ hl')) (hstep l List.mem_cons_self s s₁ h₁ hs)

end GoBatcher
