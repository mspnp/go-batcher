import GoBatcher.Lemmas.LeaseStep
/-! The mutual-exclusion invariant `Excl` of M-Lease. It is a statement about each instance and the store (`IExcl`), kept
by the instance's own steps (`IStep.iexcl`), and unharmed by time passing and by the store overwriting leases that are
over (`IExcl.mono`). -/
namespace GoBatcher

/-- the mutual-exclusion invariant behind C04 -/
structure Excl (s : LSt) : Prop where
  /-- a counted partition is backed by one of the instance's expiry timers whose instant is due already, or lies
  within the lease the store holds for this instance -/
  hold : ∀ i p, p ∈ (s.inst i).held → ∃ c, (p, c) ∈ (s.inst i).timers ∧ (c ≤ s.now ∨ ∃ u, s.store p = some (i, u) ∧ c ≤ u)
  /-- a granted call knows a lease that covers `issuedAt + lease` and is either over or still the store's -/
  call : ∀ i cl u, (s.inst i).call = some cl → cl.result = some (some u) →
            cl.issuedAt + s.lease ≤ u ∧ (u ≤ s.now ∨ s.store cl.part = some (i, u))
  issued : ∀ i cl, (s.inst i).call = some cl → cl.issuedAt ≤ s.now
  /-- urgency: no expiry timer is overdue -/
  live : ∀ i p c, (p, c) ∈ (s.inst i).timers → s.now ≤ c

theorem excl_of_inst_eq {s s' : LSt} (hn : s'.now = s.now) (hs : s'.store = s.store)
    (hh : ∀ i, (s'.inst i).held = (s.inst i).held) (ht : ∀ i, (s'.inst i).timers = (s.inst i).timers)
    (hc : ∀ i, (s'.inst i).call = (s.inst i).call) (hl : s'.lease = s.lease) (h : Excl s) : Excl s' := by
  refine ⟨?_, ?_, ?_, ?_⟩
  · intro i p hp; rw [hh] at hp; rw [ht, hn, hs]; exact h.hold i p hp
  · intro i cl u h1 h2; rw [hc] at h1; rw [hl, hn, hs]; exact h.call i cl u h1 h2
  · intro i cl h1; rw [hc] at h1; rw [hn]; exact h.issued i cl h1
  · intro i p c h1; rw [ht] at h1; rw [hn]; exact h.live i p c h1

structure IExcl (now lease : Nat) (store : Nat → Option (Nat × Nat)) (i : Nat) (x : LInst) : Prop where
  hold : ∀ p, p ∈ x.held → ∃ c, (p, c) ∈ x.timers ∧ (c ≤ now ∨ ∃ u, store p = some (i, u) ∧ c ≤ u)
  call : ∀ cl u, x.call = some cl → cl.result = some (some u) → cl.issuedAt + lease ≤ u ∧ (u ≤ now ∨ store cl.part = some (i, u))
  issued : ∀ cl, x.call = some cl → cl.issuedAt ≤ now
  live : ∀ p c, (p, c) ∈ x.timers → now ≤ c

theorem excl_iff (s : LSt) : Excl s ↔ ∀ i, IExcl s.now s.lease s.store i (s.inst i) :=
  ⟨fun h i => ⟨h.hold i, h.call i, h.issued i, h.live i⟩,
   fun h => ⟨fun i => (h i).hold, fun i => (h i).call, fun i => (h i).issued, fun i => (h i).live⟩⟩

theorem freeAt_iff (e : Option (Nat × Nat)) (now : Nat) : freeAt e now = true ↔ ∀ o u, e = some (o, u) → u ≤ now := by
  unfold freeAt
  split
  · exact ⟨fun _ => nofun, fun _ => rfl⟩
  · exact decide_eq_true_iff.trans ⟨fun h _ _ e => by cases e; exact h, fun h => h _ _ rfl⟩

theorem IExcl.mono {now now' lease : Nat} {st st' : Nat → Option (Nat × Nat)} {i : Nat} {x : LInst}
    (h : IExcl now lease st i x) (hn : now ≤ now') (hl : ∀ p c, (p, c) ∈ x.timers → now' ≤ c)
    (hst : ∀ p, st' p = st p ∨ freeAt (st p) now = true) : IExcl now' lease st' i x := by
  have keep : ∀ {p u}, st p = some (i, u) → u ≤ now' ∨ st' p = some (i, u) := fun {p u} hs =>
    (hst p).elim (fun e => Or.inr (e ▸ hs)) fun hf => Or.inl (Nat.le_trans ((freeAt_iff _ _).mp hf i u hs) hn)
  refine ⟨fun p hp => ?_, fun cl u h1 h2 => ?_, fun cl h1 => Nat.le_trans (h.issued cl h1) hn, hl⟩
  · obtain ⟨c, hc, hor⟩ := h.hold p hp
    refine ⟨c, hc, ?_⟩
    rcases hor with h1 | ⟨u, hs, hcu⟩
    · exact Or.inl (Nat.le_trans h1 hn)
    · exact (keep hs).imp (Nat.le_trans hcu) fun hs' => ⟨u, hs', hcu⟩
  · obtain ⟨ha, hb⟩ := h.call cl u h1 h2
    exact ⟨ha, hb.elim (fun hb => Or.inl (Nat.le_trans hb hn)) keep⟩

variable {now lease i : Nat} {st st' : Nat → Option (Nat × Nat)} {x x' : LInst} {l : LLabel}

theorem IStep.store (hs : IStep now lease st i x l x' st') (p : Nat) : st' p = st p ∨ freeAt (st p) now = true := by
  induction hs with
  | grant cl _ _ hf =>
    by_cases hp : p = cl.part
    · exact Or.inr (hp ▸ hf)
    · exact Or.inl (updS_other hp)
  | _ => exact Or.inl rfl

theorem IStep.iexcl (hs : IStep now lease st i x l x' st') (h : IExcl now lease st i x) : IExcl now lease st' i x' := by
  induction hs with
  | issue =>
    exact { h with
      call := fun _ _ h1 h2 => by cases h1; cases h2
      issued := fun _ h1 => by cases h1; exact Nat.le_refl _ }
  | grant cl hc hr hf =>
    -- the new lease replaces one that was over: the instance's older claims on this partition are due already
    exact { h.mono (Nat.le_refl _) h.live (IStep.store (.grant cl hc hr hf)) with
      call := fun _ _ h1 h2 => by
        cases h1; cases h2
        exact ⟨Nat.add_le_add_right (h.issued cl hc) _, Or.inr (updS_same ..)⟩
      issued := fun _ h1 => by cases h1; exact h.issued cl hc }
  | refuse g cl hc =>
    exact { h with
      call := fun _ _ h1 h2 => by cases h1; cases h2
      issued := fun _ h1 => by cases h1; exact h.issued cl hc }
  | retDrop => exact { h with call := nofun, issued := nofun }
  | retGrant cl u hc hr ht =>
    -- the new timer, at request time + lease, is not after the end `u` of the lease that backed the call: it backs the hold
    obtain ⟨hcov, hst⟩ := h.call cl u hc hr
    exact {
      call := nofun, issued := nofun
      hold := fun p hp => by
        by_cases hpp : p = cl.part
        · subst hpp
          exact ⟨_, List.mem_append_right _ (List.mem_singleton_self _),
            hst.imp (Nat.le_trans hcov) fun hst => ⟨u, hst, hcov⟩⟩
        · obtain ⟨c, hc, hor⟩ := h.hold p ((mem_afterGrant_held.mp hp).resolve_right hpp)
          exact ⟨c, List.mem_append_left _ hc, hor⟩
      live := fun p c hm => (List.mem_append.mp hm).elim (h.live p c) fun hm => by
        cases List.mem_singleton.mp hm; exact Nat.le_of_lt ht }
  | expire =>
    exact { h with
      hold := fun q hq => by
        have hq' := List.mem_filter.mp hq
        obtain ⟨c', hc', hor⟩ := h.hold q hq'.1
        exact ⟨c', (List.mem_erase_of_ne fun e => bne_iff_ne.mp hq'.2 (congrArg Prod.fst e)).mpr hc', hor⟩
      live := fun q c' hm => h.live q c' (List.mem_of_mem_erase hm) }
  | provision => exact { h with hold := fun p hp => h.hold p (List.mem_filter.mp hp).1 }
  | _ => exact { h with }

/-- Instances beyond `n` take no step, so they stay as they begin: no timer, no partition, no call. `lCanAdvance` asks the
timers of the first `n` instances only; `Excl.live` for the others holds because they have none. -/
def Inert (n : Nat) (s : LSt) : Prop := ∀ i, n ≤ i → (s.inst i).timers = [] ∧ (s.inst i).held = [] ∧ (s.inst i).call = none

theorem step_excl (n : Nat) (s s' : LSt) (l : LLabel) (h : lstep n s l = some s') (hin : Inert n s) (he : Excl s) :
    Excl s' ∧ Inert n s' := by
  rw [excl_iff] at he ⊢
  cases LStep.of_lstep h with
  | advance dt _ hl =>
    refine ⟨fun i => (he i).mono (Nat.le_add_right _ _) (fun p c hm => ?_) fun _ => Or.inl rfl, hin⟩
    by_cases hi : i < n
    · exact hl i hi (p, c) hm
    · rw [(hin i (Nat.le_of_not_lt hi)).1] at hm; cases hm
  | @inst i _ x' st' hi hs =>
    refine ⟨fun j => ?_, fun j hj => ?_⟩
    · by_cases hj : j = i
      · subst hj; simpa only [updI_same] using hs.iexcl (he j)
      · simpa only [updI_other hj] using (he j).mono (Nat.le_refl _) (he j).live hs.store
    · simpa only [updI_other (Nat.ne_of_gt (Nat.lt_of_lt_of_le hi hj))] using hin j hj

end GoBatcher
