import GoBatcher.Model.GoSem
import GoBatcher.Model.Batcher
import GoBatcher.Model.Lease
/-!
What the functions of `Generated/Trans.lean` compute, said once and on plain values.

The translator prints most Go methods twice (v1, v2), each over a record type of its own, with the same body. Where such
a body has arithmetic of its own there is ONE definition here with that body on the fields it reads (`incTarget`,
`countLoop`, `giveMe`, `pickLoop` / `pick`, `grant`, `admitThen`), and the arithmetic is done once, on it. `ExpectTrans.lean` shows, per generation, that the translated function is that
definition applied to the record's fields (true by unfolding) and gets its obligations from here. Nothing in this
module mentions a generated definition: by itself a definition here says nothing about the Go source, and a change of
the source cannot break it, only the theorems of `ExpectTrans.lean` that tie it to the source. When the two generations
come to differ in a body, the definition here splits in two.
-/
namespace GoBatcher.TransCore
open GoSem

/-! ### Go loops over a slice -/

/-- `for i := range l { ... l[i] ... }` reads the list itself -/
theorem map_getD_range {α : Type} (l : List α) (d : α) : (List.range l.length).map (fun i => l.getD i d) = l := by
  apply List.ext_getElem
  · simp
  · intro i h _; simp at h; simp [h]

theorem countP_range_getD (l : List Bool) : (List.range l.length).countP (fun i => l.getD i false) = l.count true := by
  have := List.countP_map (p := (· == true)) (f := fun i => l.getD i false) (l := List.range l.length)
  rw [map_getD_range, ← List.count_eq_countP] at this
  rw [this]; congr 1; funext i; exact (beq_true _).symm

/-- a uint32 counter in a loop of fewer than 2^32 rounds counts; beside it the indexes that were not counted are
collected, in order -/
theorem foldl_pick_u32 (p : Nat → Bool) (is : List Nat) (c : Nat) (acc : List Int) (h : c + is.length < 4294967296)
    (hi : ∀ i ∈ is, i < 4294967296) :
    is.foldl (fun (x : Int × List Int) i => if (!p i) then (x.1, x.2 ++ [u32 (i : Int)]) else (u32 (x.1 + 1), x.2)) ((c : Int), acc)
      = (((c + is.countP p : Nat) : Int), acc ++ (is.filter (fun i => !p i)).map (fun (i : Nat) => (i : Int))) := by
  induction is generalizing c acc with
  | nil => simp
  | cons i is ih =>
    rw [List.length_cons] at h
    rw [List.forall_mem_cons] at hi
    rw [List.foldl_cons, List.countP_cons, List.filter_cons]
    cases p i
    · simp only [Bool.not_false, if_true, u32_natCast hi.1]
      rw [ih c _ (by omega) hi.2]; simp
    · simp only [Bool.not_true, Bool.false_eq_true, if_false, ← Int.natCast_succ, u32_natCast (show c + 1 < 4294967296 by omega)]
      rw [ih _ _ (by omega) hi.2]; simp; omega

/-! ### Batcher: the demand counter -/

/-- `incTarget(val)` on the field `target` -/
def incTarget (t val : Int) : Int :=
  if ((decide (val < 0)) && (decide (t ≥ (u32 (- val))))) then u32 (t + u32 val)
  else if decide (val < 0) then u32 0
  else if decide (val > 0) then u32 (t + u32 val) else t

/-- while nothing wraps, `incTarget` adds a signed amount and stops at zero -/
theorem incTarget_eq {t val : Int} (h0 : 0 ≤ t) (hv : -4294967296 < val) (h : t + val < 4294967296) :
    incTarget t val = ((t + val).toNat : Int) := by
  simp only [incTarget, u32_add_u32, Bool.and_eq_true, decide_eq_true_eq]
  by_cases hn : val < 0
  · rw [u32_of_range (x := -val) (by omega) (by omega)]
    by_cases hg : t ≥ -val
    · rw [if_pos ⟨hn, hg⟩, u32_of_range (by omega) h, Int.toNat_of_nonneg (by omega)]
    · rw [if_neg (fun h => hg h.2), if_pos hn, Int.toNat_eq_zero.2 (by omega)]; rfl
  · rw [if_neg (fun h => hn h.1), if_neg hn, Int.toNat_of_nonneg (by omega)]
    split
    · exact u32_of_range (by omega) h
    · omega

theorem incTarget_add (t c : Nat) (h : t + c < 4294967296) : incTarget t c = ((t + c : Nat) : Int) := by
  rw [incTarget_eq (Int.natCast_nonneg t) (by omega) (by omega), ← Int.natCast_add, Int.toNat_natCast]

theorem incTarget_sub (t c : Nat) (ht : t < 4294967296) (hc : c < 4294967296) :
    incTarget t (-(c : Int)) = ((decTarget t c : Nat) : Int) := by
  rw [incTarget_eq (Int.natCast_nonneg t) (by omega) (by omega), ← Int.sub_eq_add_neg, Int.toNat_sub, decTarget]

/-- the roll-back in `Enqueue` undoes the count -/
theorem incTarget_add_sub (t c : Nat) (h : t + c < 4294967296) : incTarget ((t + c : Nat) : Int) (-(c : Int)) = t := by
  rw [incTarget_sub _ _ h (by omega), decTarget, Nat.add_sub_cancel]

/-! ### SharedResource: capacity, demand, the partition asked for -/

/-- the loop of `calc()`: the non-nil slots, counted in uint32 -/
def countLoop (l : List Bool) : Int :=
  (List.range l.length).foldl (fun (t : Int) i => if l.getD i false then u32 (t + 1) else t) 0

/-- `GiveMe(v)`: the new value of the field `target` -/
def giveMe (reserved factor v : Int) : Int :=
  u32 (goCeilDiv (if decide (v ≥ reserved) then u32 (v - reserved) else u32 0) (if decide (factor = 0) then u32 1 else factor))

theorem ceilDivN_le (a f : Nat) (hf : 0 < f) : ceilDivN a f ≤ a := by
  unfold ceilDivN
  have h1 : a ≤ a * f := Nat.le_mul_of_pos_right a hf
  have h2 : (a + 1) * f = a * f + f := Nat.succ_mul a f
  have : (a + f - 1) / f < a + 1 := (Nat.div_lt_iff_lt_mul hf).2 (by omega)
  omega

theorem goCeilDiv_cast (a f : Nat) (hf : 0 < f) : goCeilDiv (a : Int) (f : Int) = ((ceilDivN a f : Nat) : Int) := by
  unfold goCeilDiv ceilDivN
  rw [if_neg (by omega), Int.natCast_ediv, Int.natCast_sub (by omega : 1 ≤ a + f)]; rfl

theorem giveMe_eq (v res f : Nat) (hv : v < 4294967296) :
    giveMe res f v = ((ceilDivN (v - res) (if f = 0 then 1 else f) : Nat) : Int) := by
  have hpos : 0 < (if f = 0 then 1 else f) := by split <;> omega
  have ht : (if decide ((v : Int) ≥ res) then u32 ((v : Int) - res) else u32 0) = ((v - res : Nat) : Int) := by
    simp only [ge_iff_le, Int.ofNat_le, decide_eq_true_eq]
    split
    · rw [← Int.natCast_sub ‹_›]; exact u32_natCast (by omega)
    · rw [Nat.sub_eq_zero_of_le (by omega)]; rfl
  have hf : (if decide ((f : Int) = 0) then u32 1 else (f : Int)) = ((if f = 0 then 1 else f : Nat) : Int) := by
    simp only [decide_eq_true_eq, Int.natCast_eq_zero]; split <;> rfl
  rw [giveMe, ht, hf, goCeilDiv_cast _ _ hpos]
  exact u32_natCast (Nat.lt_of_le_of_lt (ceilDivN_le _ _ hpos) (by omega))

/-- `getAllocatedAndRandomUnallocatedPartition`'s loop: the held count and the free indexes -/
def pickLoop (l : List Bool) : Int × List Int :=
  (List.range l.length).foldl
    (fun x i => if (!(l.getD i false)) then (x.1, x.2 ++ [u32 (i : Int)]) else (u32 (x.1 + 1), x.2)) (0, [])

/-- ... and what it returns for the random draw `k` -/
def pick (l : List Bool) (k : Int) : Int × Int × String :=
  if decide (((pickLoop l).2.length : Int) < 1) then ((pickLoop l).1, 0, "error")
  else ((pickLoop l).1, (pickLoop l).2.getD k.toNat 0, "")

theorem pickLoop_eq (l : List Bool) (hl : l.length < 4294967296) :
    pickLoop l = (((l.count true : Nat) : Int),
      ((List.range l.length).filter (fun i => !(l.getD i false))).map (fun (i : Nat) => (i : Int))) := by
  have := foldl_pick_u32 (fun i => l.getD i false) (List.range l.length) 0 [] (by simpa using hl)
    (fun i hi => by have := List.mem_range.1 hi; omega)
  rwa [countP_range_getD, Nat.zero_add, List.nil_append] at this

/-- `calc()` counts what the pick counts -/
theorem countLoop_eq (l : List Bool) (hl : l.length < 4294967296) : countLoop l = ((l.count true : Nat) : Int) :=
  (List.foldl_hom (init := ((0 : Int), ([] : List Int))) Prod.fst fun x i => by cases l.getD i false <;> rfl).trans
    (congrArg Prod.fst (pickLoop_eq l hl))

theorem calc_capacity (l : List Bool) (f : Int) (hf : 0 ≤ f) (hl : l.length < 4294967296)
    (h : f * (l.count true : Nat) < 4294967296) : u32 (countLoop l * f) = f * (l.count true : Nat) := by
  rw [countLoop_eq l hl, Int.mul_comm]
  exact u32_of_range (Int.mul_nonneg hf (Int.natCast_nonneg _)) h

/-- `provisionBlobs` on the partition list: the first `n` slots are kept, the list is filled up to `n` with nil ones -/
theorem length_resize (l : List Bool) (n : Nat) : (l.take n ++ (List.replicate n false).drop l.length).length = n := by
  simp only [List.length_append, List.length_take, List.length_drop, List.length_replicate]; omega

theorem getD_resize (l : List Bool) (n i : Nat) (hi : i < n) :
    (l.take n ++ (List.replicate n false).drop l.length).getD i false = l.getD i false := by
  rw [List.drop_replicate, List.getD_eq_getElem?_getD, List.getD_eq_getElem?_getD, List.getElem?_append, List.length_take,
    List.getElem?_take_of_lt hi, List.getElem?_replicate]
  split
  · rfl
  · rw [List.getElem?_eq_none (by omega)]; split <;> rfl

/-- the lease loop's answer handling (`granted`: the lease the store gave, 0 = none; `elapsed`: how long the call took) -/
def grant (granted elapsed : Int) : Bool × Int × Bool :=
  if decide (granted = 0) then (false, 0, false)
  else if decide (granted - elapsed ≤ 0) then (false, 0, false) else (true, granted - elapsed, true)

theorem grant_eq (granted elapsed : Nat) :
    grant granted elapsed =
      (if granted = 0 ∨ granted ≤ elapsed then (false, 0, false) else (true, ((granted - elapsed : Nat) : Int), true)) := by
  simp only [grant, decide_eq_true_eq, Int.natCast_eq_zero]
  by_cases h0 : granted = 0
  · rw [if_pos h0, if_pos (.inl h0)]
  · by_cases h1 : granted ≤ elapsed
    · rw [if_neg h0, if_pos (by omega), if_pos (.inr h1)]
    · rw [if_neg h0, if_neg (by omega), if_neg (by omega), Int.natCast_sub (by omega)]

/-! ### Batcher: `applyDefaults`, the admission checks of `Enqueue` -/

theorem applyDefault_cast (v d : Int) (hd : 0 ≤ d) : ((applyDefault v d : Nat) : Int) = if v ≤ 0 then d else v := by
  unfold applyDefault; split <;> omega

theorem applyDefault_pos (v d : Int) (hd : 0 < d) : 0 < applyDefault v d := by
  unfold applyDefault; split <;> omega

/-- the control skeleton of the head of `Enqueue`: `rej e` at the first admission check that fails, else `go` -/
def admitThen {α : Type} (rl op w : Bool) (cost maxCap maxAtt att : Int) (rej : String → α) (go : α) : α :=
  if (!op) then rej "NoOperationError"
  else if (!w) then rej "NoWatcherError"
  else if (rl && decide (cost > maxCap)) then rej "TooExpensiveError"
  else if (decide (maxAtt > 0) && decide (att ≥ maxAtt)) then rej "TooManyAttemptsError"
  else go

/-! ### the listener registry (both generations: the same three functions on the association list) -/

/-- `AddListener` makes the map if it is nil and puts the listener under its id in place of whatever was there: under a
fresh id nothing is replaced -/
theorem filter_fresh (ls : List (Int × Int)) (newId : Int) (hfresh : ∀ kv ∈ ls, kv.1 ≠ newId) :
    (if ls.isEmpty then [] else ls).filter (fun kv => kv.1 != newId) = ls := by
  have hf : ls.filter (fun kv => kv.1 != newId) = ls :=
    List.filter_eq_self.2 fun kv hkv => by simpa using hfresh kv hkv
  cases ls with
  | nil => rfl
  | cons a rest => exact hf

theorem mem_filter_ne (ls : List (Int × Int)) (id : Int) (kv : Int × Int) :
    kv ∈ ls.filter (fun kv => kv.1 != id) ↔ kv ∈ ls ∧ kv.1 ≠ id := by
  simp [List.mem_filter]

end GoBatcher.TransCore
