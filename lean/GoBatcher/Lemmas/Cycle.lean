import GoBatcher.Model.Cycle
/-! * Batch tables: `opsOf`, the operations in a table (counting `cntB` and cost `costB` are functions of them, so
  conservation is a permutation), `openOf`, a watcher's open batch, and `lookupB` / `eraseB`, which are the library's
  `lookup` / `eraseP` on the watcher key.
* The loop body read back from its result: `Took` (the three ways an operation is released) and `stepOp_spec`.
* The loop as a relation: `Scans`, with `scan_scans`; a fact about a cycle is an induction on `Scans`, whose rules
  carry the premises already read back. -/
namespace GoBatcher

/-- occurrences of `x` in a list of batches -/
def cntB (x : Op) : List Batch → Nat
  | [] => 0
  | (_, b) :: r => b.count x + cntB x r

def costL (l : List Op) : Nat := (l.map (·.cost)).sum
def costB : List Batch → Nat
  | [] => 0
  | (_, b) :: r => costL b + costB r

def opsOf : List Batch → List Op
  | [] => []
  | (_, b) :: r => b ++ opsOf r

/-- the open batch of watcher `w`, empty when it has none -/
def openOf (w : Nat) (l : List Batch) : List Op := (lookupB w l).getD []

@[simp] theorem cntB_nil (x : Op) : cntB x [] = 0 := rfl
@[simp] theorem cntB_cons (x : Op) (w : Nat) (b : List Op) (r : List Batch) :
    cntB x ((w, b) :: r) = b.count x + cntB x r := rfl
@[simp] theorem costL_nil : costL [] = 0 := rfl
@[simp] theorem costL_cons (o : Op) (l : List Op) : costL (o :: l) = o.cost + costL l := by simp [costL]
@[simp] theorem costL_append (l₁ l₂ : List Op) : costL (l₁ ++ l₂) = costL l₁ + costL l₂ := by
  simp [costL]
@[simp] theorem costB_nil : costB [] = 0 := rfl
@[simp] theorem costB_cons (w : Nat) (b : List Op) (r : List Batch) : costB ((w, b) :: r) = costL b + costB r := rfl
@[simp] theorem opsOf_nil : opsOf [] = [] := rfl
@[simp] theorem opsOf_cons (w : Nat) (b : List Op) (r : List Batch) : opsOf ((w, b) :: r) = b ++ opsOf r := rfl
theorem opsOf_eq (l : List Batch) : opsOf l = (l.map (·.2)).flatten := by
  induction l with
  | nil => rfl
  | cons h t ih => obtain ⟨w, b⟩ := h; simp [ih]

@[simp] theorem opsOf_append (l₁ l₂ : List Batch) : opsOf (l₁ ++ l₂) = opsOf l₁ ++ opsOf l₂ := by
  simp [opsOf_eq]

theorem opsOf_perm {l₁ l₂ : List Batch} (h : l₁.Perm l₂) : (opsOf l₁).Perm (opsOf l₂) := by
  rw [opsOf_eq, opsOf_eq]; exact (h.map _).flatten

theorem costL_perm {l₁ l₂ : List Op} (h : l₁.Perm l₂) : costL l₁ = costL l₂ := (h.map _).sum_nat

theorem cntB_eq (x : Op) (l : List Batch) : cntB x l = (opsOf l).count x := by
  induction l with
  | nil => rfl
  | cons h t ih => obtain ⟨w, b⟩ := h; simp [ih]
theorem costB_eq (l : List Batch) : costB l = costL (opsOf l) := by
  induction l with
  | nil => rfl
  | cons h t ih => obtain ⟨w, b⟩ := h; simp [ih]

theorem cntB_append (x : Op) (l₁ l₂ : List Batch) : cntB x (l₁ ++ l₂) = cntB x l₁ + cntB x l₂ := by
  simp [cntB_eq]
theorem costB_append (l₁ l₂ : List Batch) : costB (l₁ ++ l₂) = costB l₁ + costB l₂ := by
  simp [costB_eq]

theorem openOf_cons (w w' : Nat) (b : List Op) (l : List Batch) :
    openOf w ((w', b) :: l) = if w' = w then b else openOf w l := by
  simp only [openOf, lookupB]; split <;> rfl

theorem lookupB_eq_some {w : Nat} {l : List Batch} {b : List Op} (h : lookupB w l = some b) :
    openOf w l = b ∧ (lookupB w l).isNone = false := by simp [openOf, h]

theorem lookupB_eq_none {w : Nat} {l : List Batch} (h : lookupB w l = none) :
    openOf w l = [] ∧ (lookupB w l).isNone = true := by simp [openOf, h]

theorem lookupB_eq (w : Nat) (l : List Batch) : lookupB w l = l.lookup w := by
  induction l with
  | nil => rfl
  | cons p t ih =>
    obtain ⟨w', b⟩ := p
    rw [lookupB, List.lookup_cons, ih]
    cases hb : w == w' with
    | true => rw [if_pos (eq_of_beq hb).symm]
    | false => rw [if_neg (Ne.symm (ne_of_beq_false hb))]

theorem eraseB_eq (w : Nat) (l : List Batch) : eraseB w l = l.eraseP (w == ·.1) := by
  induction l with
  | nil => rfl
  | cons p t ih =>
    obtain ⟨w', b⟩ := p
    rw [eraseB, List.eraseP_cons, ih]
    cases hb : w == w' with
    | true => rw [if_pos (eq_of_beq hb).symm]; rfl
    | false => rw [if_neg (Ne.symm (ne_of_beq_false hb))]; rfl

theorem lookupB_mem {w : Nat} {l : List Batch} {b : List Op} (h : lookupB w l = some b) : (w, b) ∈ l := by
  obtain ⟨l₁, l₂, rfl, -⟩ := List.lookup_eq_some_iff.mp (lookupB_eq w l ▸ h)
  simp

theorem lookupB_none_notin {w : Nat} {l : List Batch} (h : lookupB w l = none) : w ∉ l.map (·.1) := by
  rw [lookupB_eq, List.lookup_eq_none_iff] at h
  intro hm
  obtain ⟨p, hp, rfl⟩ := List.mem_map.mp hm
  simpa using h p hp

theorem lookupB_none_erase (w : Nat) (l : List Batch) (h : lookupB w l = none) : eraseB w l = l := by
  rw [lookupB_eq, List.lookup_eq_none_iff] at h
  rw [eraseB_eq]
  exact List.eraseP_of_forall_not fun p hp => by simpa using h p hp

theorem mem_eraseB {w : Nat} {l : List Batch} {p : Batch} (h : p ∈ eraseB w l) : p ∈ l :=
  List.mem_of_mem_eraseP (eraseB_eq w l ▸ h)

theorem eraseB_keys (w : Nat) (l : List Batch) : (eraseB w l).map (·.1) = (l.map (·.1)).erase w := by
  rw [eraseB_eq, List.erase_eq_eraseP, List.eraseP_map]; rfl

theorem eraseB_nodup {w : Nat} {l : List Batch} (h : (l.map (·.1)).Nodup) :
    ((eraseB w l).map (·.1)).Nodup ∧ w ∉ (eraseB w l).map (·.1) := by
  rw [eraseB_keys]; exact ⟨h.erase w, h.not_mem_erase⟩

theorem eraseB_length_some {w : Nat} {l : List Batch} {b : List Op} (h : lookupB w l = some b) :
    (eraseB w l).length + 1 = l.length := by
  have hm := lookupB_mem h
  rw [eraseB_eq, List.length_eraseP_of_mem hm (by simp)]
  exact Nat.sub_add_cancel (List.length_pos_of_mem hm)

theorem eraseB_length (w : Nat) (l : List Batch) :
    (eraseB w l).length + 1 = l.length + if (lookupB w l).isNone then 1 else 0 := by
  cases h : lookupB w l with
  | none => simp [lookupB_none_erase w l h]
  | some b => simp [eraseB_length_some h]

theorem openOf_mem (w : Nat) (l : List Batch) : openOf w l = [] ∨ (w, openOf w l) ∈ l := by
  cases h : lookupB w l with
  | none => exact .inl (lookupB_eq_none h).1
  | some b => exact .inr ((lookupB_eq_some h).1 ▸ lookupB_mem h)

theorem openOf_eraseB_ne {w w' : Nat} (l : List Batch) (h : w ≠ w') : openOf w' (eraseB w l) = openOf w' l := by
  induction l with
  | nil => rfl
  | cons hd t ih =>
    obtain ⟨k, b⟩ := hd
    rw [eraseB]
    split
    · next hk => rw [openOf_cons, if_neg (hk ▸ h)]
    · rw [openOf_cons, openOf_cons, ih]

theorem openOf_eraseB_self {w : Nat} (l : List Batch) (h : (l.map (·.1)).Nodup) : openOf w (eraseB w l) = [] := by
  refine (openOf_mem ..).resolve_right fun hm => (eraseB_nodup (w := w) h).2 ?_
  exact List.mem_map.mpr ⟨_, hm, rfl⟩

theorem opsOf_eraseB (w : Nat) (l : List Batch) : (openOf w l ++ opsOf (eraseB w l)).Perm (opsOf l) := by
  induction l with
  | nil => exact .refl _
  | cons h t ih =>
    obtain ⟨w', b⟩ := h
    rw [openOf_cons, eraseB]
    split
    · exact .refl _
    · exact (List.perm_append_comm_assoc ..).trans (ih.append_left b)

theorem cntB_eraseB (x : Op) (w : Nat) (l : List Batch) :
    cntB x (eraseB w l) + (openOf w l).count x = cntB x l := by
  simpa [cntB_eq, Nat.add_comm] using (opsOf_eraseB w l).count_eq x

theorem costB_eraseB (w : Nat) (l : List Batch) : costB (eraseB w l) + costL (openOf w l) = costB l := by
  simpa [costB_eq, Nat.add_comm] using costL_perm (opsOf_eraseB w l)

def optCnt (x : Op) : Option Batch → Nat
  | none => 0
  | some (_, b) => b.count x

def optCost : Option Batch → Nat
  | none => 0
  | some (_, b) => costL b

theorem cntB_toList (x : Op) (o : Option Batch) : cntB x o.toList = optCnt x o := by
  cases o with
  | none => rfl
  | some p => obtain ⟨w, b⟩ := p; simp [optCnt]
theorem costB_toList (o : Option Batch) : costB o.toList = optCost o := by
  cases o with
  | none => rfl
  | some p => obtain ⟨w, b⟩ := p; simp [optCost]

theorem count_cons_ite (op x : Op) (l : List Op) :
    List.count x (op :: l) = l.count x + (if op = x then 1 else 0) := by
  simp [List.count_cons]

theorem cutoff_false {c : Cfg} {k : Nat} (hl : c.limited = true) :
    cutoff c k = false ↔ (c.ge = true → k < c.allow) ∧ (c.ge = false → k ≤ c.allow) := by
  cases hg : c.ge <;> simp [cutoff, hl, hg]

theorem cutoff_iff {c : Cfg} {k : Nat} :
    cutoff c k = true ↔ c.limited = true ∧ (c.ge = true → c.allow ≤ k) ∧ (c.ge = false → c.allow < k) := by
  cases hg : c.ge <;> simp [cutoff, hg]

theorem isFull_iff {c : Cfg} {w n : Nat} : isFull c w n = true ↔ 0 < c.mb w ∧ c.mb w ≤ n := by
  simp [isFull]

theorem isFull_eq_false {c : Cfg} {w n : Nat} : isFull c w n = false ↔ (0 < c.mb w → n < c.mb w) := by
  rw [← Bool.not_eq_true, isFull_iff, not_and, Nat.not_le]


/-- How `stepOp` releases `op`: alone if it is not batchable; otherwise appended to its watcher's open batch, which
is raised when that fills it and stays open when not. A slot is reserved exactly when a batch is begun. -/
inductive Took (c : Cfg) (a : Acc) (op : Op) : Acc → Option Batch → Bool → Prop
  | single : op.batchable = false →
      Took c a op { a with consumed := a.consumed + op.cost } (some (op.w, [op])) true
  | fills : op.batchable = true → isFull c op.w ((openOf op.w a.openB).length + 1) = true →
      Took c a op { consumed := a.consumed + op.cost, openB := eraseB op.w a.openB }
        (some (op.w, openOf op.w a.openB ++ [op])) (lookupB op.w a.openB).isNone
  | joins : op.batchable = true → isFull c op.w ((openOf op.w a.openB).length + 1) = false →
      Took c a op { consumed := a.consumed + op.cost,
                    openB := (op.w, openOf op.w a.openB ++ [op]) :: eraseB op.w a.openB }
        none (lookupB op.w a.openB).isNone

section
variable {c : Cfg} {a : Acc} {av : Bool} {op : Op} {a' : Acc} {out : Option Batch} {s : Bool}

theorem place_took {b : List Op} {slot : Bool} (hb : op.batchable = true) (h1 : openOf op.w a.openB = b)
    (h2 : (lookupB op.w a.openB).isNone = slot) :
    ∃ a' out, place c a op b slot = .take a' out slot ∧ Took c a op a' out slot := by
  subst h1 h2
  unfold place
  split
  · exact ⟨_, _, rfl, .fills hb ‹_›⟩
  · exact ⟨_, _, rfl, .joins hb (Bool.eq_false_iff.mpr ‹_›)⟩

theorem stepOp_spec (c : Cfg) (a : Acc) (av : Bool) (op : Op) :
    match stepOp c a av op with
    | .stop => cutoff c a.consumed = true
    | .skip => cutoff c a.consumed = false ∧ av = false ∧ (op.batchable = true → lookupB op.w a.openB = none)
    | .take a' out s => cutoff c a.consumed = false ∧ (s = true → av = true) ∧ Took c a op a' out s := by
  -- the branches of `stepOp` in its order: at the cut-off; batchable with an open batch; batchable without one, with / without
  -- a slot; not batchable, with / without a slot
  fun_cases stepOp c a av op
  case case1 hc => exact hc
  case case2 hc hb b hl =>
    obtain ⟨a', out, e, ht⟩ := place_took (c := c) hb (lookupB_eq_some hl).1 (lookupB_eq_some hl).2
    rw [e]; exact ⟨by simpa using hc, nofun, ht⟩
  case case3 hc hb hl hav =>
    obtain ⟨a', out, e, ht⟩ := place_took (c := c) hb (lookupB_eq_none hl).1 (lookupB_eq_none hl).2
    rw [e]; exact ⟨by simpa using hc, fun _ => hav, ht⟩
  case case4 hc hb hl hav => exact ⟨by simpa using hc, by simpa using hav, fun _ => hl⟩
  case case5 hc hb hav => exact ⟨by simpa using hc, fun _ => hav, .single (by simpa using hb)⟩
  case case6 hc hb hav => exact ⟨by simpa using hc, by simpa using hav, (absurd · hb)⟩

theorem stepOp_take (h : stepOp c a av op = .take a' out s) :
    cutoff c a.consumed = false ∧ (s = true → av = true) ∧ Took c a op a' out s := by
  have := stepOp_spec c a av op; rwa [h] at this

theorem Took.perm (h : Took c a op a' out s) : (opsOf (out.toList ++ a'.openB)).Perm (op :: opsOf a.openB) := by
  cases h with
  | single => exact .refl _
  | fills | joins =>
    simp only [Option.toList_some, Option.toList_none, List.nil_append, List.cons_append, opsOf_cons,
      List.append_assoc]
    exact List.perm_middle.trans ((opsOf_eraseB ..).cons op)

theorem Took.consumed (h : Took c a op a' out s) : a'.consumed = a.consumed + op.cost := by
  cases h <;> rfl

theorem Took.cost (h : Took c a op a' out s) : costB a'.openB + optCost out = costB a.openB + op.cost := by
  have := costL_perm h.perm
  rw [← costB_eq, costB_append, costB_toList, costL_cons, ← costB_eq] at this
  omega

end

theorem stepOp_conserve (c : Cfg) (a : Acc) (av : Bool) (op x : Op)
    {a' : Acc} {out : Option Batch} {s : Bool} (h : stepOp c a av op = .take a' out s) :
    cntB x a'.openB + optCnt x out = cntB x a.openB + (if op = x then 1 else 0) := by
  have := (stepOp_take h).2.2.perm.count_eq x
  rw [← cntB_eq, cntB_append, cntB_toList, count_cons_ite, ← cntB_eq] at this
  omega


/-- How `scan` comes to its result, one rule per way an iteration can go. -/
inductive Scans (c : Cfg) : List Op → Acc → Option Nat → ScanOut → Prop
  | nil {a free} : Scans c [] a free ⟨a, [], [], [], free⟩
  | stop {op buf a free} : cutoff c a.consumed = true → Scans c (op :: buf) a free ⟨a, [], [], op :: buf, free⟩
  | skip {op buf a free r} : cutoff c a.consumed = false → slotAvail free = false → Scans c buf a free r →
      Scans c (op :: buf) a free { r with kept := op :: r.kept }
  | take {op buf a free a' out s r} : cutoff c a.consumed = false → (s = true → slotAvail free = true) →
      Took c a op a' out s → Scans c buf a' (if s then takeSlot free else free) r →
      Scans c (op :: buf) a free { r with raised := out.toList ++ r.raised }

theorem scan_scans (c : Cfg) (buf : List Op) (a : Acc) (free : Option Nat) :
    Scans c buf a free (scan c buf a free) := by
  fun_induction scan c buf a free with
  | case1 => exact .nil
  | case2 op _ a free hs => have h := stepOp_spec c a (slotAvail free) op; rw [hs] at h; exact .stop h
  | case3 op _ a free hs r ih => have h := stepOp_spec c a (slotAvail free) op; rw [hs] at h; exact .skip h.1 h.2.1 ih
  | case4 _ _ _ _ _ _ _ hs r ih => exact .take (stepOp_take hs).1 (stepOp_take hs).2.1 (stepOp_take hs).2.2 ih

section
variable {c : Cfg} {buf : List Op} {a : Acc} {free : Option Nat} {r : ScanOut}

theorem Scans.perm (h : Scans c buf a free r) :
    (opsOf (r.raised ++ r.acc.openB) ++ (r.kept ++ r.rest)).Perm (opsOf a.openB ++ buf) := by
  induction h with
  | nil | stop => exact .refl _
  | @skip op _ _ _ _ _ _ _ ih => exact List.perm_middle.trans ((ih.cons op).trans List.perm_middle.symm)
  | @take _ buf _ _ _ _ _ _ _ _ ht _ ih =>
    simp only [List.append_assoc, opsOf_append] at ih ⊢
    refine ((ih.append_left _).trans ?_).trans List.perm_middle.symm
    simpa using ht.perm.append_right buf

theorem Scans.cost (h : Scans c buf a free r) :
    r.acc.consumed + costB a.openB = a.consumed + costB r.raised + costB r.acc.openB := by
  induction h with
  | nil | stop => simp
  | skip _ _ _ ih => exact ih
  | take _ _ ht _ ih =>
    have := ht.cost
    have := ht.consumed
    simp only [costB_append, costB_toList] at ih ⊢
    omega

/-- Either nothing was released, or the last released operation was taken at a level of consumption, not below the one
at the start, at which the cut-off did not hold. -/
theorem Scans.last (h : Scans c buf a free r) :
    r.acc.consumed = a.consumed ∨
      ∃ op ∈ buf, ∃ k, a.consumed ≤ k ∧ cutoff c k = false ∧ r.acc.consumed = k + op.cost := by
  induction h with
  | nil | stop => exact .inl rfl
  | skip _ _ _ ih => exact ih.imp_right fun ⟨o, ho, h⟩ => ⟨o, List.mem_cons_of_mem _ ho, h⟩
  | @take op _ a _ _ _ _ _ hc _ ht _ ih =>
    rcases ih with h | ⟨o, ho, k, hk, h⟩
    · exact .inr ⟨op, List.mem_cons_self, a.consumed, Nat.le_refl _, hc, h.trans ht.consumed⟩
    · exact .inr ⟨o, List.mem_cons_of_mem _ ho, k, Nat.le_trans (ht.consumed ▸ Nat.le_add_right ..) hk, h⟩

theorem scan_consumed_mono (c : Cfg) (buf : List Op) : ∀ (a : Acc) (free : Option Nat),
    a.consumed ≤ (scan c buf a free).acc.consumed := by
  intro a free
  rcases (scan_scans c buf a free).last with h | ⟨_, _, k, hk, _, h⟩
  · exact Nat.le_of_eq h.symm
  · exact h ▸ Nat.le_trans hk (Nat.le_add_right ..)

theorem Scans.stopped (h : Scans c buf a free r) (hc : cutoff c a.consumed = true) : r = ⟨a, [], [], buf, free⟩ := by
  cases h with
  | nil | stop => rfl
  | skip hc' | take hc' => rw [hc] at hc'; cases hc'

/-- Work conservation: the cycle stops looking only at the end of the buffer or at the cut-off. -/
theorem Scans.rest (h : Scans c buf a free r) : r.rest = [] ∨ cutoff c r.acc.consumed = true := by
  induction h with
  | nil => exact .inl rfl
  | stop hc => exact .inr hc
  | skip _ _ _ ih | take _ _ _ _ ih => exact ih

/-- where taking a slot changes nothing (no limit, or no slot left), a cycle leaves the slots as they are -/
theorem Scans.free_fixed (h : Scans c buf a free r) (hf : takeSlot free = free) : r.free = free := by
  induction h with
  | nil | stop => rfl
  | skip _ _ _ ih => exact ih hf
  | @take _ _ _ _ _ _ s _ _ _ _ _ ih =>
    cases s with
    | false => exact ih hf
    | true => exact (ih (congrArg takeSlot hf)).trans hf

theorem Scans.kept (h : Scans c buf a free r) : r.kept ≠ [] → slotAvail r.free = false := by
  induction h with
  | nil | stop => simp
  | @skip _ _ _ free _ _ hav h _ =>
    -- no slot is free, and none becomes free during a cycle
    cases free with
    | none => cases hav
    | some n =>
      have hn : n = 0 := Nat.eq_zero_of_not_pos (of_decide_eq_false hav)
      exact fun _ => (h.free_fixed (hn ▸ rfl)).symm ▸ hav
  | take _ _ _ _ ih => exact ih

theorem Scans.unlimited_kept (h : Scans c buf a none r) : r.kept = [] :=
  Decidable.byContradiction fun hk => by have := h.kept hk; rw [h.free_fixed rfl] at this; cases this

end

theorem cycle_perm (c : Cfg) (buf : List Op) (free : Option Nat) (sweep : List Batch)
    (hsw : SweepOK c buf free sweep) :
    (opsOf (cycleBatches c buf free sweep) ++ cycleBuffer c buf free).Perm buf :=
  ((opsOf_perm (hsw.append_left _)).append_right _).trans (scan_scans c buf ⟨0, []⟩ free).perm

end GoBatcher
