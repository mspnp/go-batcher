import GoBatcher.Model.BufferLinked
import GoBatcher.Lemmas.Buffer
/-!
L0 ⊑ L1: the linked representation of the v2 buffer refines the list-with-cursor model.

`Seg h p ns n`: the nodes `ns` (address, operation) are linked in the heap `h` as a doubly linked segment entered from
`p` and left to `n`. `Rep b ns a`: the heap buffer `b` represents the abstract buffer `a` through the closed segment `ns`.
Stores are followed through `seg_append`: a store into the last (first) node of a segment changes its exit (entry),
and a segment depends only on the cells of its own nodes (`Seg.congr`). `top`, `skip` and `remove` end by putting the
cursor on a node and reading it: `Rep.seek` refines that once, for `Buf.seek`.
-/
namespace GoBatcher

abbrev Nodes := List (Nat × Op)

/-- address of the first node; `d` if there is none -/
def firstA : Nodes → Option Nat → Option Nat
  | [], d => d
  | x :: _, _ => some x.1

/-- address of the last node; `d` if there is none -/
def lastA : Nodes → Option Nat → Option Nat
  | [], d => d
  | x :: l, _ => lastA l (some x.1)

def Seg (h : List Link) : Option Nat → Nodes → Option Nat → Prop
  | _, [], _ => True
  | p, x :: l, n => h[x.1]? = some ⟨p, x.2, firstA l n⟩ ∧ Seg h (some x.1) l n

@[simp] theorem firstA_nil (d : Option Nat) : firstA [] d = d := rfl
@[simp] theorem firstA_cons (x : Nat × Op) (l : Nodes) (d : Option Nat) : firstA (x :: l) d = some x.1 := rfl
@[simp] theorem lastA_nil (d : Option Nat) : lastA [] d = d := rfl
@[simp] theorem lastA_cons (x : Nat × Op) (l : Nodes) (d : Option Nat) : lastA (x :: l) d = lastA l (some x.1) := rfl

@[simp] theorem firstA_append (l₁ l₂ : Nodes) (d : Option Nat) : firstA (l₁ ++ l₂) d = firstA l₁ (firstA l₂ d) := by
  cases l₁ <;> rfl

@[simp] theorem lastA_append (l₁ l₂ : Nodes) (d : Option Nat) : lastA (l₁ ++ l₂) d = lastA l₂ (lastA l₁ d) := by
  induction l₁ generalizing d with
  | nil => rfl
  | cons x l ih => exact ih _

theorem lastA_mem {l : Nodes} {p : Nat} (h : lastA l none = some p) : p ∈ l.map (·.1) := by
  rcases List.eq_nil_or_concat l with rfl | ⟨l', y, rfl⟩
  · cases h
  · rw [List.concat_eq_append, lastA_append] at h; cases h; simp

theorem firstA_mem {l : Nodes} {p : Nat} (h : firstA l none = some p) : p ∈ l.map (·.1) := by
  cases l with
  | nil => cases h
  | cons x l => cases h; exact List.mem_cons_self

theorem seg_append {h : List Link} {l₁ l₂ : Nodes} {p n : Option Nat} :
    Seg h p (l₁ ++ l₂) n ↔ Seg h p l₁ (firstA l₂ n) ∧ Seg h (lastA l₁ p) l₂ n := by
  induction l₁ generalizing p with
  | nil => simp [Seg]
  | cons x l ih => simp [Seg, ih, and_assoc]

theorem Seg.congr {h h' : List Link} {l : Nodes} {p n : Option Nat} (hs : Seg h p l n)
    (he : ∀ x ∈ l, h'[x.1]? = h[x.1]?) : Seg h' p l n := by
  induction l generalizing p with
  | nil => trivial
  | cons x l ih =>
    exact ⟨(he x List.mem_cons_self).trans hs.1, ih hs.2 fun y hy => he y (List.mem_cons_of_mem _ hy)⟩

theorem Seg.cell {h : List Link} {l : Nodes} {p n : Option Nat} (hs : Seg h p l n) {x : Nat × Op} (hx : x ∈ l) :
    ∃ p' n', h[x.1]? = some ⟨p', x.2, n'⟩ := by
  induction l generalizing p with
  | nil => cases hx
  | cons y l ih =>
    rcases List.mem_cons.mp hx with rfl | hx
    · exact ⟨_, _, hs.1⟩
    · exact ih hs.2 hx

theorem Seg.addr_lt {h : List Link} {l : Nodes} {p n : Option Nat} (hs : Seg h p l n) {k : Nat}
    (hk : k ∈ l.map (·.1)) : k < h.length := by
  obtain ⟨x, hx, rfl⟩ := List.mem_map.mp hk
  obtain ⟨_, _, hc⟩ := hs.cell hx
  exact (List.getElem?_eq_some_iff.mp hc).1

theorem Seg.mid {h : List Link} {l₁ l₂ : Nodes} {x : Nat × Op} {p n : Option Nat} (hs : Seg h p (l₁ ++ x :: l₂) n) :
    h[x.1]? = some ⟨lastA l₁ p, x.2, firstA l₂ n⟩ := (seg_append.mp hs).2.1


/-- `p.f = v` when `p` is a node: the stores of `remove()` and `enqueue()` -/
def upd (h : List Link) (p : Option Nat) (f : Link → Link) : List Link :=
  match p with
  | some a => (match h[a]? with | some l => h.set a (f l) | none => h)
  | none => h

abbrev setNxt (h : List Link) (p v : Option Nat) : List Link := upd h p fun l => { l with nxt := v }
abbrev setPrv (h : List Link) (n v : Option Nat) : List Link := upd h n fun l => { l with prv := v }

theorem upd_cell (h : List Link) (p : Option Nat) (f : Link → Link) (k : Nat) :
    (upd h p f)[k]? = (h[k]?).map fun l => if p = some k then f l else l := by
  cases p with
  | none => simp [upd]
  | some q =>
    by_cases e : q = k
    · subst e
      cases hq : h[q]? with
      | none => simp [upd, hq]
      | some l => simp [upd, hq, List.getElem?_set_self (List.getElem?_eq_some_iff.mp hq).1]
    · have : ¬ some q = some k := fun h => e (Option.some.inj h)
      cases hq : h[q]? <;> simp [upd, hq, List.getElem?_set_ne e, this]

section
variable {h : List Link} {l : Nodes} {p n : Option Nat}

theorem Seg.upd_frame (hs : Seg h p l n) (q : Option Nat) (f : Link → Link) (hq : ∀ x ∈ l, q ≠ some x.1) :
    Seg (upd h q f) p l n :=
  hs.congr fun x hx => by simp [upd_cell, hq x hx]

theorem Seg.setExit (hs : Seg h p l n) (hnd : (l.map (·.1)).Nodup) (v : Option Nat) :
    Seg (setNxt h (lastA l none) v) p l v := by
  rcases List.eq_nil_or_concat l with rfl | ⟨l', y, rfl⟩
  · trivial
  · rw [List.concat_eq_append] at *
    rw [seg_append] at hs ⊢
    have hy : ∀ x ∈ l', some y.1 ≠ some x.1 := fun x hx e => by
      have := (List.nodup_append.mp (by simpa using hnd)).2.2 x.1 (List.mem_map.mpr ⟨x, hx, rfl⟩) y.1 (by simp)
      exact this (Option.some.inj e).symm
    simp only [lastA_append, lastA]
    refine ⟨hs.1.upd_frame _ _ hy, ?_, trivial⟩
    rw [upd_cell, hs.2.1]; simp

theorem Seg.setEntry (hs : Seg h p l n) (hnd : (l.map (·.1)).Nodup) (v : Option Nat) :
    Seg (setPrv h (firstA l none) v) v l n := by
  cases l with
  | nil => trivial
  | cons y l' =>
    have hy : ∀ x ∈ l', some y.1 ≠ some x.1 := fun x hx e =>
      (List.nodup_cons.mp hnd).1 (List.mem_map.mpr ⟨x, hx, (Option.some.inj e).symm⟩)
    refine ⟨?_, hs.2.upd_frame _ _ hy⟩
    rw [firstA, upd_cell, hs.1]; simp
end


structure Rep (b : LBuf) (ns : Nodes) (a : Buf) : Prop where
  seg : Seg b.heap none ns none
  nodup : (ns.map (·.1)).Nodup
  items : a.items = ns.map (·.2)
  head : b.head = firstA ns none
  tail : b.tail = lastA ns none
  len : b.len = ns.length
  cur : b.cursor = a.cur.bind (fun i => (ns[i]?).map (·.1))
  /-- `cur` alone cannot tell a nil cursor from one beyond the last node: both give `b.cursor = none` -/
  curv : ∀ (i : Nat), a.cur = some i → i < ns.length
  cap : b.cap = a.cap
  shut : b.shut = a.shut

theorem rep_new (cap : Nat) : Rep (LBuf.new cap) [] (Buf.new cap) := by
  constructor <;> simp [LBuf.new, Buf.new, Seg]

section
variable {b : LBuf} {ns : Nodes} {a : Buf}

theorem Rep.items_len (h : Rep b ns a) : a.items.length = ns.length := by
  rw [h.items]; simp

theorem Rep.split (h : Rep b ns a) {i : Nat} (hc : a.cur = some i) :
    ∃ l₁ x l₂, ns = l₁ ++ x :: l₂ ∧ l₁.length = i ∧ b.cursor = some x.1 := by
  have hi := h.curv i hc
  refine ⟨ns.take i, ns[i], ns.drop (i + 1), ?_, by simp; omega, ?_⟩
  · rw [List.getElem_cons_drop, List.take_append_drop]
  · rw [h.cur, hc]; simp [List.getElem?_eq_getElem hi]

/-- `seek` on both sides: with the cursor on the `j`-th node (nil if there is none) the operation under it, read
through the heap, is the one `seek` returns. Where the cursors stood before plays no part. -/
theorem Rep.seek (h : Rep b ns a) (j : Nat) {c : Option Nat} (hc : c = (ns[j]?).map (·.1)) :
    ({ b with cursor := c } : LBuf).curOp = some (a.seek j).2 ∧ Rep { b with cursor := c } ns (a.seek j).1 := by
  subst hc
  have hit : a.items[j]? = (ns[j]?).map (·.2) := by rw [h.items, List.getElem?_map]
  refine ⟨?_, { h with
    cur := by
      simp only [Buf.seek, hit]
      cases hj : ns[j]? with
      | none => rfl
      | some x => exact (congrArg _ hj).symm
    curv := fun k hk => h.items_len ▸ Buf.seek_cur_lt hk }⟩
  simp only [LBuf.curOp, Buf.seek, hit]
  cases hj : ns[j]? with
  | none => rfl
  | some x =>
    obtain ⟨_, _, hx⟩ := h.seg.cell (List.mem_of_getElem? hj)
    simp only [Option.map_some, hx]

theorem top_refines (h : Rep b ns a) : ∃ b', b.top = some (b', a.top.2) ∧ Rep b' ns a.top.1 := by
  obtain ⟨h1, h2⟩ := h.seek 0 (c := b.head) (by rw [h.head]; cases ns <;> rfl)
  exact ⟨_, by rw [LBuf.top, h1, Buf.top_seek]; rfl, Buf.top_seek a ▸ h2⟩

theorem skip_refines (h : Rep b ns a) : ∃ b', b.skip = some (b', a.skip.2) ∧ Rep b' ns a.skip.1 := by
  cases hc : a.cur with
  | none =>
    have hb : b.cursor = none := by rw [h.cur, hc]; rfl
    exact ⟨b, by simp [LBuf.skip, hb, Buf.skip, hc], by simpa [Buf.skip, hc] using h⟩
  | some i =>
    obtain ⟨l₁, x, l₂, rfl, rfl, hb⟩ := h.split hc
    obtain ⟨h1, h2⟩ := h.seek (l₁.length + 1) (c := firstA l₂ none) (by cases l₂ <;> simp)
    refine ⟨_, ?_, Buf.skip_seek hc ▸ h2⟩
    rw [LBuf.skip, hb]; simp only [h.seg.mid, Option.bind_some, h1, Buf.skip_seek hc]; rfl

theorem shutdown_refines (h : Rep b ns a) : Rep b.shutdown [] a.shutdown := by
  constructor <;> simp [LBuf.shutdown, Buf.shutdown, h.cap, Seg]


theorem Seg.grow {h : List Link} {l : Nodes} {p n : Option Nat} (hs : Seg h p l n) (new : List Link) :
    Seg (h ++ new) p l n :=
  hs.congr fun _ hx => List.getElem?_append_left (hs.addr_lt (List.mem_map_of_mem hx))

theorem enqueue_refines (h : Rep b ns a) (op : Op) (eof : Bool) :
    ∃ b' ns', b.enqueue op eof = some (b', (a.enqueue op eof).2) ∧ Rep b' ns' (a.enqueue op eof).1 := by
  have hfb : b.len ≥ b.cap ↔ a.items.length ≥ a.cap := by rw [h.len, h.cap, h.items_len]
  unfold LBuf.enqueue Buf.enqueue
  by_cases hs : a.shut = true
  · rw [if_pos (h.shut ▸ hs), if_pos hs]; exact ⟨b, ns, rfl, h⟩
  by_cases hf : a.items.length ≥ a.cap
  · rw [if_neg (h.shut ▸ hs), if_neg hs, if_pos (hfb.mpr hf), if_pos hf]; exact ⟨b, ns, rfl, h⟩
  rw [if_neg (h.shut ▸ hs), if_neg hs, if_neg (mt hfb.mp hf), if_neg hf]
  -- the new node goes behind the tail: a store into the tail's `nxt`, which is no store at all in an empty buffer
  have hnew : b.heap.length ∉ ns.map (·.1) := fun hm => Nat.lt_irrefl _ (h.seg.addr_lt hm)
  have hr : Rep { b with heap := setNxt (b.heap ++ [⟨b.tail, op, none⟩]) b.tail (some b.heap.length),
                         head := firstA (ns ++ [(b.heap.length, op)]) none, tail := some b.heap.length,
                         len := b.len + 1 }
      (ns ++ [(b.heap.length, op)]) { a with items := a.items ++ [op] } :=
    { seg := by
        rw [h.tail, seg_append]
        refine ⟨(h.seg.grow _).setExit h.nodup _, ?_, trivial⟩
        rw [upd_cell, List.getElem?_concat_length, Option.map_some, if_neg fun e => hnew (lastA_mem e)]; rfl
      nodup := by
        rw [List.map_append]
        exact (List.perm_append_singleton ..).nodup_iff.mpr (List.nodup_cons.mpr ⟨hnew, h.nodup⟩)
      items := by simp [h.items]
      head := rfl
      tail := by simp
      len := by simp [h.len]
      cur := by
        rw [h.cur]
        cases hc : a.cur with
        | none => rfl
        | some i => exact congrArg (Option.map _) (List.getElem?_append_left (h.curv i hc)).symm
      curv := fun i hc => List.length_append ▸ Nat.lt_add_right _ (h.curv i hc)
      cap := h.cap, shut := h.shut }
  refine ⟨_, _, ?_, hr⟩
  rcases List.eq_nil_or_concat ns with rfl | ⟨l, t, rfl⟩
  · rw [h.head, h.tail]; rfl
  · rw [List.concat_eq_append] at h
    have ht : b.tail = some t.1 := by simpa [lastA] using h.tail
    obtain ⟨hd, hh⟩ : ∃ hd, b.head = some hd := by rw [h.head]; cases l <;> exact ⟨_, rfl⟩
    obtain ⟨_, _, htc⟩ := h.seg.cell (x := t) (by simp)
    have hfa : firstA (l.concat t ++ [(b.heap.length, op)]) none = b.head := by rw [h.head]; simp
    rw [hfa, hh, ht]
    simp only [setNxt, upd, List.getElem?_append_left (List.getElem?_eq_some_iff.mp htc).1, htc, Option.map_some]


/-- the heap after a node with neighbours `pv`, `nx` has been unlinked -/
def unlinkHeap (heap : List Link) (pv nx : Option Nat) : List Link := setPrv (setNxt heap pv nx) nx pv

theorem Seg.unlink {h : List Link} {l₁ l₂ : Nodes} {x : Nat × Op} (hs : Seg h none (l₁ ++ x :: l₂) none)
    (hnd : ((l₁ ++ x :: l₂).map (·.1)).Nodup) :
    Seg (unlinkHeap h (lastA l₁ none) (firstA l₂ none)) none (l₁ ++ l₂) none := by
  rw [List.map_append, List.map_cons, List.nodup_append, List.nodup_cons] at hnd
  obtain ⟨hn1, ⟨-, hn2⟩, hd⟩ := hnd
  obtain ⟨h1, -, h2⟩ := seg_append.mp hs
  refine seg_append.mpr ⟨?_, ?_⟩
  · exact (h1.setExit hn1 _).upd_frame _ _ fun z hz e =>
      hd z.1 (List.mem_map_of_mem hz) z.1 (List.mem_cons_of_mem _ (firstA_mem e)) rfl
  · exact (h2.upd_frame _ _ fun z hz e =>
      hd z.1 (lastA_mem e) z.1 (List.mem_cons_of_mem _ (List.mem_map_of_mem hz)) rfl).setEntry hn2 _

/-- the `switch` of `remove()`, run on a node whose neighbours are other nodes of the heap -/
theorem LBuf.unlink_eq (b : LBuf) {c : Nat} {l : Link} (hc : b.heap[c]? = some l)
    (hp : ∀ p, l.prv = some p → p ≠ c ∧ p < b.heap.length) (hn : ∀ n, l.nxt = some n → n ≠ c ∧ n < b.heap.length)
    (hpn : ∀ p n, l.prv = some p → l.nxt = some n → p ≠ n) :
    b.unlink c = some { b with heap := unlinkHeap b.heap l.prv l.nxt,
                               head := if l.prv = none then l.nxt else b.head,
                               tail := if l.nxt = none then l.prv else b.tail, cursor := l.nxt } := by
  unfold LBuf.unlink
  rw [hc]
  simp only [Option.bind_some]
  cases hpv : l.prv with
  | none =>
    cases hnx : l.nxt with
    | none => simp [unlinkHeap, setNxt, setPrv, upd]
    | some n =>
      obtain ⟨hnc, hnl⟩ := hn n hnx
      simp [unlinkHeap, setNxt, setPrv, upd, List.getElem?_eq_getElem hnl, List.getElem?_set_ne hnc, hc, hnx]
  | some p =>
    obtain ⟨hpc, hpl⟩ := hp p hpv
    cases hnx : l.nxt with
    | none => simp [unlinkHeap, setNxt, setPrv, upd, List.getElem?_eq_getElem hpl, List.getElem?_set_ne hpc, hc, hpv]
    | some n =>
      obtain ⟨hnc, hnl⟩ := hn n hnx
      have := hpn p n hpv hnx
      simp [unlinkHeap, setNxt, setPrv, upd, hpl, hnl, List.getElem?_set_ne, hpc, hnc, hc, hpv, hnx, this]

theorem remove_refines (h : Rep b ns a) : ∃ b' ns', b.remove = some (b', a.remove.2) ∧ Rep b' ns' a.remove.1 := by
  cases hc : a.cur with
  | none =>
    have hb : b.cursor = none := by rw [h.cur, hc]; rfl
    exact ⟨b, ns, by simp [LBuf.remove, hb, Buf.remove, hc], by simpa [Buf.remove, hc] using h⟩
  | some i =>
    obtain ⟨l₁, x, l₂, rfl, rfl, hb⟩ := h.split hc
    have hx := h.seg.mid
    have hnd := h.nodup
    rw [List.map_append, List.map_cons, List.nodup_append, List.nodup_cons] at hnd
    -- the neighbours of the cursor node are nodes, different from it and from each other
    have hlt {k : Nat} (hk : k ∈ l₁.map (·.1) ++ x.1 :: l₂.map (·.1)) : k < b.heap.length :=
      h.seg.addr_lt (List.map_append ▸ hk)
    have hue := LBuf.unlink_eq b hx
      (fun p e => ⟨hnd.2.2 p (lastA_mem e) x.1 List.mem_cons_self, hlt (List.mem_append_left _ (lastA_mem e))⟩)
      (fun n e => ⟨fun e' => hnd.2.1.1 (e' ▸ firstA_mem e),
        hlt (List.mem_append_right _ (List.mem_cons_of_mem _ (firstA_mem e)))⟩)
      (fun p n e e' => hnd.2.2 p (lastA_mem e) n (List.mem_cons_of_mem _ (firstA_mem e')))
    have hr : Rep { b with heap := unlinkHeap b.heap (lastA l₁ none) (firstA l₂ none),
                           head := if lastA l₁ none = none then firstA l₂ none else b.head,
                           tail := if firstA l₂ none = none then lastA l₁ none else b.tail,
                           cursor := none, len := b.len - 1 }
        (l₁ ++ l₂) { a with items := a.items.eraseIdx l₁.length, cur := none } :=
      { seg := h.seg.unlink h.nodup
        nodup := (((List.sublist_cons_self x l₂).append_left l₁).map _).nodup h.nodup
        items := by simp [h.items, List.eraseIdx_append_of_length_le]
        head := by
          rw [h.head]
          rcases List.eq_nil_or_concat l₁ with rfl | ⟨l, y, rfl⟩ <;> simp
        tail := by
          rw [h.tail]
          cases l₂ <;> simp
        len := by simp [h.len]
        cur := rfl
        curv := nofun
        cap := h.cap, shut := h.shut }
    obtain ⟨h1, h2⟩ := hr.seek l₁.length (c := firstA l₂ none) (by cases l₂ <;> simp)
    refine ⟨_, _, ?_, Buf.remove_seek hc ▸ h2⟩
    have hlen : ¬ b.len = 0 := by simp [h.len]
    simp only [LBuf.remove, hb, hue, Option.bind_some, hlen, if_false, h1, Buf.remove_seek hc]; rfl

end
end GoBatcher
