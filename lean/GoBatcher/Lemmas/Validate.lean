import GoBatcher.Model.Validate
/-! `validate` is a chain of `if`s, each returning its own error: which inputs get a given answer is read off the chain with
`ite_eq_iff`, one `if` after the other. -/
namespace GoBatcher

theorem ite_eq_iff {α : Type} {p : Prop} [Decidable p] {a b c : α} : (if p then a else b) = c ↔ p ∧ a = c ∨ ¬p ∧ b = c := by
  split <;> simp [*]

end GoBatcher
