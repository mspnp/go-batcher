import GoBatcher.Lemmas.LeaseStep
/-! Per-instance well-formedness of M-Lease: index safety, lifecycle, "never renewed", partition counts. -/
namespace GoBatcher

structure IWF (now lease : Nat) (x : LInst) : Prop where
  nodup : x.held.Nodup
  inRange : ∀ p, p ∈ x.held → p < x.parts
  callOK : ∀ cl, x.call = some cl → cl.part < x.parts ∧ cl.part ∉ x.held ∧ cl.issuedAt ≤ now
  partsMax : x.parts ≤ maxPartitions
  partsCfg : x.needProvision = false → x.parts = 0 ∨ x.parts = partitionCount x.gen x.shared x.factor
  /-- never renewed: every pending expiry is at most one lease duration away -/
  timerFresh : ∀ p c, (p, c) ∈ x.timers → c ≤ now + lease
  /-- the last clause is the bound `start` checked: `provision` still needs it, and only v2 can change `shared` -/
  loopPhase : x.loopOn = true → x.phase = .started ∧ x.shutdowns = 0 ∧ x.alive = true ∧
      (x.gen = .v1 → ceilDivN x.shared x.factor ≤ maxPartitions)
  shut : x.shutdowns ≤ 1
  stopped : x.phase = .stopped → x.loopOn = false ∧ x.shutdowns = 1
  uninit : x.phase = .uninit → x.loopOn = false ∧ x.shutdowns = 0 ∧ x.held = [] ∧ x.call = none ∧ x.parts = 0

def LWF (s : LSt) : Prop := ∀ i, IWF s.now s.lease (s.inst i)

theorem partitionCount_le (g : LGen) (sh f : Nat) (h : g = .v1 → ceilDivN sh f ≤ maxPartitions) :
    partitionCount g sh f ≤ maxPartitions := by
  cases g with
  | v1 => exact h rfl
  | v2 =>
    show (if ceilDivN sh f > maxPartitions then maxPartitions else ceilDivN sh f) ≤ maxPartitions
    split
    · exact Nat.le_refl _
    · exact Nat.le_of_not_lt ‹_›

theorem IStep.iwf {now lease i : Nat} {st st' : Nat → Option (Nat × Nat)} {x x' : LInst} {l : LLabel}
    (hs : IStep now lease st i x l x' st') (w : IWF now lease x) : IWF now lease x' := by
  -- a step that leaves a call in flight, or ends one, does not find the instance uninitialised
  have busy : ∀ {cl}, x.call = some cl → x.phase ≠ .uninit := fun hc hp => by
    rw [(w.uninit hp).2.2.2.1] at hc; cases hc
  induction hs with
  | startOk hp ha hv1 =>
    exact { w with
      partsCfg := nofun, loopPhase := fun _ => ⟨rfl, (w.uninit hp).2.1, ha, hv1⟩, stopped := nofun, uninit := nofun }
  | startFail => exact w
  | giveMe | setReserved => exact { w with }
  | setShared v hg =>
    exact { w with
      partsCfg := nofun
      loopPhase := fun hl => (w.loopPhase hl).imp_right (.imp_right (.imp_right fun _ hv => by rw [hg] at hv; cases hv)) }
  | provision hon _ hc =>
    have lp := w.loopPhase hon
    exact { w with
      nodup := w.nodup.filter _
      inRange := fun p hp => of_decide_eq_true (List.mem_filter.mp hp).2
      callOK := fun cl hc' => by rw [hc] at hc'; cases hc'
      partsMax := partitionCount_le _ _ _ lp.2.2.2, partsCfg := fun _ => Or.inr rfl
      uninit := fun hp => by rw [lp.1] at hp; cases hp }
  | issue p hon _ _ _ hp hh =>
    exact { w with
      callOK := fun cl hc => by cases hc; exact ⟨hp, hh, Nat.le_refl _⟩
      uninit := fun hu => by rw [(w.uninit hu).1] at hon; cases hon }
  | grant cl hc | refuse _ cl hc =>
    exact { w with
      callOK := fun _ hc' => by cases hc'; exact w.callOK cl hc
      uninit := fun hu => absurd hu (busy hc) }
  | retDrop cl hc => exact { w with callOK := nofun, uninit := fun hu => absurd hu (busy hc) }
  | retGrant cl _ hc =>
    obtain ⟨c1, c2, c3⟩ := w.callOK cl hc
    have hheld : (afterGrant x cl lease).held = x.held ++ [cl.part] :=
      if_neg (by simpa using c2)
    exact { w with
      nodup := hheld ▸ List.nodup_append.mpr
        ⟨w.nodup, List.nodup_cons.mpr ⟨nofun, .nil⟩, fun a ha b hb e => c2 (List.mem_singleton.mp hb ▸ e ▸ ha)⟩
      inRange := fun p hp => (mem_afterGrant_held.mp hp).elim (w.inRange p) fun e => e ▸ c1
      callOK := nofun
      timerFresh := fun p c hm => (List.mem_append.mp hm).elim (w.timerFresh p c) fun hm => by
        cases List.mem_singleton.mp hm; exact Nat.add_le_add_right c3 _
      uninit := fun hu => absurd hu (busy hc) }
  | expire =>
    exact { w with
      nodup := w.nodup.filter _
      inRange := fun q hq => w.inRange q (List.mem_filter.mp hq).1
      callOK := fun cl hc => (w.callOK cl hc).imp_right (.imp_left fun b hm => b (List.mem_filter.mp hm).1)
      timerFresh := fun q c' hm => w.timerFresh q c' (List.mem_of_mem_erase hm)
      uninit := fun hu => by
        obtain ⟨a, b, c', d, e⟩ := w.uninit hu
        exact ⟨a, b, (by rw [c']; rfl), d, e⟩ }
  | stop hon =>
    have b := (w.loopPhase hon).2.1
    exact { w with
      loopPhase := nofun, uninit := nofun
      shut := by rw [b]; exact Nat.le_refl _
      stopped := fun _ => ⟨rfl, by rw [b]⟩ }
  | crash =>
    exact { w with
      loopPhase := nofun
      stopped := fun hp => ⟨rfl, (w.stopped hp).2⟩
      uninit := fun hp => ⟨rfl, (w.uninit hp).2⟩ }

theorem step_lwf (n : Nat) (s s' : LSt) (l : LLabel) (h : lstep n s l = some s') (hw : LWF s) : LWF s' := by
  cases LStep.of_lstep h with
  | advance =>
    intro i
    have w := hw i
    exact { w with
      callOK := fun cl hc => (w.callOK cl hc).imp_right (.imp_right fun c => Nat.le_trans c (Nat.le_add_right _ _))
      timerFresh := fun p c hm => Nat.le_trans (w.timerFresh p c hm) (Nat.add_le_add_right (Nat.le_add_right _ _) _) }
  | @inst i _ _ _ _ hs =>
    intro j
    by_cases hj : j = i
    · subst hj; simpa only [updI_same] using hs.iwf (hw j)
    · simpa only [updI_other hj] using hw j

end GoBatcher
