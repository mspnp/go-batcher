import GoBatcher.Lemmas.BatcherInv
import GoBatcher.Lemmas.CycleOrder
/-! What holds of every batch the machine builds, open or raised (`step_batches_all`: never empty, never another watcher's
operation), and the slot invariant (C10): `slots` = batches in progress (+ open batches of the running cycle). -/
namespace GoBatcher

/-- A property of batches that survives one more operation of the batch's watcher (`hP`, as in `Took.all`) and the step's
change of costs, if it is one (`hre`), holds of all batches of the machine: every step keeps it of the open batches of the
running cycle, and then of the raised ones as well, since a batch is raised from the open ones or by the step that completes it. -/
theorem step_batches_all {P : Batch → Prop} {c : BCfg} {s s' : St} {l : Label}
    (hP : ∀ (op : Op) b, (b = [] ∨ P (op.w, b)) → P (op.w, b ++ [op]))
    (hre : ∀ o k, l = .setCost o k → ∀ p : Batch, P p → P (p.1, p.2.map (reCost o k)))
    (h : step c s l = some s') (ho : ∀ p ∈ s.openB, P p) :
    (∀ p ∈ s'.openB, P p) ∧ ((∀ b ∈ s.batches, P (b.w, b.ops)) → ∀ b ∈ s'.batches, P (b.w, b.ops)) := by
  have raised {p : Batch} (hp : P p) (hb : ∀ b ∈ s.batches, P (b.w, b.ops)) (b : RBatch)
      (hm : b ∈ (raise c s p).batches) : P (b.w, b.ops) :=
    (mem_raise hm).elim (hb b) fun e => e ▸ hp
  have mapped {f : RBatch → RBatch} (hf : ∀ z, P (z.w, z.ops) → P ((f z).w, (f z).ops))
      (hb : ∀ b ∈ s.batches, P (b.w, b.ops)) (b : RBatch) (hm : b ∈ s.batches.map f) : P (b.w, b.ops) := by
    obtain ⟨z, hz, rfl⟩ := List.mem_map.mp hm
    exact hf z (hb z hz)
  induction Step.of_step h with
  | cycleTake hl _ _ hs => exact ⟨((stepOp_take hs).2.2.all (hP _) (St.openB_cycle hl ▸ ho)).1, id⟩
  | cycleRaise hl _ _ hs =>
    have h1 := (stepOp_take hs).2.2.all (hP _) (St.openB_cycle hl ▸ ho)
    exact ⟨h1.1, raised (h1.2 _ rfl)⟩
  | sweepOne hl hbk =>
    rw [St.openB_sweep hl] at ho
    exact ⟨fun p hp => ho p (mem_eraseB hp), raised (ho _ (lookupB_mem hbk))⟩
  | scanEnd hl => exact ⟨by simpa only [St.openB, hl] using ho, id⟩
  | cbReturn | finish => exact ⟨ho, mapped fun z hz => by split <;> exact hz⟩
  | startCall | takeStopV1 | takeStopV2 | takePause | wake | cycleBegin | cycleEnd => exact ⟨nofun, id⟩
  | setCost o k =>
    refine ⟨fun p hp => ?_, mapped fun z hz => hre o k rfl _ hz⟩
    rw [St.openB_doSetCost] at hp
    obtain ⟨q, hq, rfl⟩ := List.mem_map.mp hp
    exact hre o k rfl q (ho q hq)
  | _ => exact ⟨ho, id⟩

def openCount (s : St) : Nat :=
  match s.loop with
  | .cycle _ acc => acc.openB.length
  | .sweep acc => acc.openB.length
  | _ => 0

def nUnfinished (l : List RBatch) : Nat := (l.filter (fun b => !b.finished)).length

/-- open batches of a running cycle are never empty (`raise` drops an empty batch, so it would hold a slot for good) -/
def OpenNE (s : St) : Prop :=
  match s.loop with
  | .cycle _ acc => ∀ p ∈ acc.openB, p.2 ≠ []
  | .sweep acc => ∀ p ∈ acc.openB, p.2 ≠ []
  | _ => True

theorem nUnfinished_cons (y : RBatch) (t : List RBatch) :
    nUnfinished (y :: t) = (if y.finished then 0 else 1) + nUnfinished t := by
  unfold nUnfinished
  cases hy : y.finished <;> simp [hy] <;> omega

theorem nUnfinished_append (l₁ l₂ : List RBatch) : nUnfinished (l₁ ++ l₂) = nUnfinished l₁ + nUnfinished l₂ := by
  simp [nUnfinished, List.filter_append]

theorem raise_nUnfinished (c : BCfg) (s : St) (p : Batch) (hp : p.2 ≠ []) :
    nUnfinished (raise c s p).batches = nUnfinished s.batches + 1 := by
  rcases raise_cases c s p with ⟨he, _⟩ | hr
  · exact absurd he hp
  · rw [hr, nUnfinished_append]; rfl

theorem nUnfinished_mark (l : List RBatch) (b : Nat) (x : RBatch) (hnd : (l.map (·.id)).Nodup)
    (hx : x ∈ l) (hid : x.id = b) (hf : x.finished = false) :
    nUnfinished (l.map (markFin b)) + 1 = nUnfinished l := by
  unfold nUnfinished
  rw [(unfinished_mark l b x hnd hx hid hf).length_eq, List.length_cons]

theorem nUnfinished_map (l : List RBatch) (g : RBatch → RBatch) (hg : ∀ y, (g y).finished = y.finished) :
    nUnfinished (l.map g) = nUnfinished l := by
  unfold nUnfinished
  rw [unfinished_map l g hg, List.length_map]

theorem openNE_iff (s : St) : OpenNE s ↔ ∀ p ∈ s.openB, p.2 ≠ [] := by
  unfold OpenNE St.openB
  cases s.loop with
  | cycle | sweep => exact .rfl
  | _ => exact ⟨fun _ => nofun, fun _ => trivial⟩

theorem step_openNE (c : BCfg) (s s' : St) (l : Label) (h : step c s l = some s') (hi : OpenNE s) : OpenNE s' := by
  rw [openNE_iff] at *
  exact (step_batches_all (P := fun p => p.2 ≠ []) (fun _ _ _ => by simp) (fun _ _ _ _ hp => by simpa using hp) h hi).1

/-- `len(r.inflight)` = batches in progress + batches the running cycle has opened; never above the limit -/
def SlotsOK (c : BCfg) (s : St) : Prop :=
  (c.mcb = 0 → s.slots = 0) ∧ (c.mcb ≠ 0 → s.slots = nUnfinished s.batches + openCount s ∧ s.slots ≤ c.mcb)

theorem openCount_eq (s : St) : openCount s = s.openB.length := by
  unfold openCount St.openB; cases s.loop <;> rfl

theorem slotFree_spec (c : BCfg) (s : St) (h : slotFree c s = true) (hm : c.mcb ≠ 0) : s.slots < c.mcb := by
  unfold slotFree at h
  simp only [Bool.or_eq_true, beq_iff_eq, decide_eq_true_eq] at h
  exact h.resolve_left hm

/-- a step that reserves a slot iff it starts a batch (opens or raises one) keeps the invariant -/
theorem slotsOK_reserve {c : BCfg} {s s' : St} {slot : Bool} (hs : s'.slots = slotsAfter c s slot)
    (hn : nUnfinished s'.batches + s'.openB.length = nUnfinished s.batches + s.openB.length + (if slot then 1 else 0))
    (hfree : slot = true → slotFree c s = true) (hi : SlotsOK c s) : SlotsOK c s' := by
  unfold SlotsOK slotsAfter at *
  rw [openCount_eq] at *
  rw [hs]
  refine ⟨fun hm => by simp [hm, hi.1 hm], fun hm => ?_⟩
  have h0 := hi.2 hm
  cases slot with
  | false => simp only [Bool.false_and, Bool.false_eq_true, if_false] at hn ⊢; omega
  | true =>
    have := slotFree_spec c s (hfree rfl) hm
    simp only [Bool.true_and, bne_iff_ne, ne_eq, hm, not_false_eq_true, if_true] at hn ⊢; omega

theorem slotsOK_congr {c : BCfg} (s s' : St) (hs : s'.slots = s.slots)
    (hb : nUnfinished s'.batches = nUnfinished s.batches) (hl : s'.openB = s.openB) (h : SlotsOK c s) : SlotsOK c s' :=
  slotsOK_reserve (slot := false) hs (by rw [hb, hl]; rfl) nofun h

/-- an audit that fires between cycles finds no slot in use: every batch has finished (`audit_all_finished`) -/
theorem audit_slots_zero (c : BCfg) (s : St) (hw : ∀ w, effMot c w ≤ c.mot) (hl : s.loop = .idle)
    (hc : auditCond c s = true) (ht : TimeOK c s) (hs : SlotsOK c s) : s.slots = 0 := by
  by_cases hm : c.mcb = 0
  · exact hs.1 hm
  · rw [(hs.2 hm).1, openCount_eq, St.openB_idle hl, nUnfinished, audit_all_finished c s hw hc ht]; rfl

/-- the audit of a healthy Batcher, which (v2) sets the slot count to zero, leaves it as it is -/
theorem doAudit_slots (c : BCfg) (s : St) (hw : ∀ w, effMot c w ≤ c.mot) (hl : s.loop = .idle) (ht : TimeOK c s)
    (hs : SlotsOK c s) : (doAudit c s).slots = s.slots :=
  ite_eq_right_iff.mpr fun hc => (audit_slots_zero c s hw hl (Bool.and_eq_true_iff.mp hc).1 ht hs).symm

theorem step_slotsOK (c : BCfg) (s s' : St) (l : Label) (h : step c s l = some s')
    (hw : ∀ w, effMot c w ≤ c.mot) (hid : IdsOK s) (ht : TimeOK c s) (hst : StartOK s) (hne : OpenNE s)
    (hi : SlotsOK c s) : SlotsOK c s' := by
  rw [openNE_iff] at hne
  have hs := Step.of_step h
  have ho := hs.openB_eq hst
  induction hs with
  | cycleSkip => exact slotsOK_congr s _ rfl rfl rfl hi
  | cycleTake hl _ _ hstep =>
    have hk := stepOp_take hstep
    exact slotsOK_reserve rfl (by simpa [St.openB, hl, Nat.add_assoc] using hk.2.2.count) hk.2.1 hi
  | @cycleRaise _ _ _ _ _ p _ hl _ _ hstep =>
    have hk := stepOp_take hstep
    have hpne := (hk.2.2.all (P := fun p => p.2 ≠ []) (fun _ _ => by simp) (St.openB_cycle hl ▸ hne)).2 p rfl
    refine slotsOK_reserve rfl ?_ hk.2.1 hi
    have := hk.2.2.count
    simp only [Option.toList_some, List.length_cons, List.length_nil] at this
    simp only [raise_nUnfinished _ _ _ hpne, St.openB, hl]
    omega
  | @sweepOne acc w b hl hb =>
    have hbne : b ≠ [] := (St.openB_sweep hl ▸ hne : ∀ p ∈ acc.openB, p.2 ≠ []) (w, b) (lookupB_mem hb)
    have hl' := eraseB_length_some hb
    refine slotsOK_reserve (s := s) (slot := false) rfl ?_ nofun hi
    simp only [raise_nUnfinished c s (w, b) hbne, St.openB, hl, Bool.false_eq_true, if_false]
    omega
  | @finish b x hf hx =>
    have hmark := nUnfinished_mark s.batches b x hid.2 (find_batch hf).1 (find_batch hf).2 hx
    have hoc : openCount (markFinished c s b x) = openCount s := rfl
    unfold SlotsOK at *
    rw [hoc, markFinished_batches]
    simp only [markFinished]
    refine ⟨fun hm => by simp [hm, hi.1 hm], fun hm => ?_⟩
    have h0 := hi.2 hm
    simp only [bne_iff_ne, ne_eq, hm, not_false_eq_true, if_true]
    omega
  | cbReturn =>
    exact slotsOK_congr s _ rfl (nUnfinished_map _ _ fun y => by split <;> rfl) ho hi
  | takeAudit hl => exact slotsOK_congr s _ (doAudit_slots c s hw hl ht hi) rfl ho hi
  | setCost =>
    refine slotsOK_reserve (s := s) (slot := false) rfl ?_ nofun hi
    rw [St.openB_doSetCost, reCostB, List.length_map]
    exact congrArg (· + _) (nUnfinished_map _ _ fun _ => rfl)
  | _ => exact slotsOK_congr s _ rfl rfl ho hi

end GoBatcher
