import GoBatcher.Model.Eventer
import GoBatcher.Lemmas.Run
/-! M-Eventer: its transitions as rules (`EStep`, inverted once by `EStep.of_step`), runs (`erun_induct`), and the
invariant `EInv`. What `EInv` says of an emit in progress is one record, `EmitOK`, so that a step is looked at once per
emit (the one it touches / any other) and not once per clause. -/
namespace GoBatcher

theorem updE_same (f : Nat → Emit) (ev : Nat) (x : Emit) : updE f ev x ev = x := by simp [updE]
theorem updE_other {f : Nat → Emit} {ev k : Nat} {x : Emit} (h : k ≠ ev) : updE f ev x k = f k := by simp [updE, h]

inductive EStep (s : ESt) : ELabel → ESt → Prop
  | add {id : Nat} (ha : s.active = []) (hl : id ∉ s.listeners) (hr : id ∉ s.removed) :
      EStep s (.add id) { s with listeners := id :: s.listeners }
  | remove {id : Nat} (ha : s.active = []) :
      EStep s (.remove id) { s with listeners := s.listeners.erase id, removed := id :: s.removed }
  | emitBegin {ev : Nat} (hna : ev ∉ s.active) (hnf : ev ∉ s.finished) :
      EStep s (.emitBegin ev)
        { s with active := ev :: s.active,
                 em := updE s.em ev { snap := s.listeners, pending := s.listeners, done := [] } }
  | deliver {ev id : Nat} (ha : ev ∈ s.active) (hp : id ∈ (s.em ev).pending) :
      EStep s (.deliver ev id)
        { s with em := updE s.em ev { (s.em ev) with pending := (s.em ev).pending.erase id, done := id :: (s.em ev).done },
                 log := (ev, id) :: s.log }
  | emitEnd {ev : Nat} (ha : ev ∈ s.active) (hp : (s.em ev).pending = []) :
      EStep s (.emitEnd ev) { s with active := s.active.erase ev, finished := ev :: s.finished }

theorem EStep.of_step {s s' : ESt} {l : ELabel} (h : estep s l = some s') : EStep s l s' := by
  revert s'
  fun_cases estep s l <;> intro s' h <;> cases h
  all_goals rename_i hc; simp only [Bool.and_eq_true, List.isEmpty_iff, Bool.not_eq_true', List.contains_eq_mem,
    decide_eq_false_iff_not, decide_eq_true_eq] at hc
  · exact .add hc.1.1 hc.1.2 hc.2
  · exact .remove hc
  · exact .emitBegin hc.1 hc.2
  · exact .deliver hc.1 hc.2
  · exact .emitEnd hc.1 hc.2

theorem erun_induct {P : ESt → Prop} (hstep : ∀ s s' l, estep s l = some s' → P s → P s')
    (ls : List ELabel) (s s' : ESt) (h : erun s ls = some s') : P s → P s' :=
  run_induct_of (fun _ => rfl) (fun _ _ _ => rfl) h fun l _ s s' => hstep s s' l

theorem count_deliver_ne {ev k : Nat} (h : k ≠ ev) (id id' : Nat) (log : List (Nat × Nat)) :
    ((ev, id) :: log).count (k, id') = log.count (k, id') := by
  simp [Ne.symm h]

/-- The emit `e` of event `ev` in progress: the listeners still to be called are registered; the snapshot has every listener
once and is, as a multiset, those called and those still to be called; the log holds one delivery for each call made. -/
structure EmitOK (listeners : List Nat) (log : List (Nat × Nat)) (ev : Nat) (e : Emit) : Prop where
  pend : ∀ id ∈ e.pending, id ∈ listeners
  snodup : e.snap.Nodup
  snap : e.snap.Perm (e.pending ++ e.done)
  cnt : ∀ id, log.count (ev, id) = e.done.count id

/-- The invariant of M-Eventer. `afresh` keeps the emits in progress apart from the finished ones, whose deliveries `fin` counts;
`logev` says a delivery in the log belongs to an event that has begun, so a beginning emit finds none of its own. -/
structure EInv (s : ESt) : Prop where
  lnodup : s.listeners.Nodup
  rem : ∀ id, id ∈ s.removed → id ∉ s.listeners
  anodup : s.active.Nodup
  afresh : ∀ ev, ev ∈ s.active → ev ∉ s.finished
  act : ∀ ev, ev ∈ s.active → EmitOK s.listeners s.log ev (s.em ev)
  logev : ∀ p, p ∈ s.log → p.1 ∈ s.active ∨ p.1 ∈ s.finished
  fin : ∀ ev, ev ∈ s.finished → ∀ id, s.log.count (ev, id) = if id ∈ (s.em ev).snap then 1 else 0

theorem einv_init : EInv ESt.init := by
  constructor <;> simp [ESt.init]

theorem step_einv (s s' : ESt) (l : ELabel) (h : estep s l = some s') (hi : EInv s) : EInv s' := by
  cases EStep.of_step h with
  | @add id ha hl hr =>
    refine { hi with lnodup := List.nodup_cons.mpr ⟨hl, hi.lnodup⟩, rem := fun r hr' hm => ?_,
                     act := fun ev hev => absurd hev (ha ▸ List.not_mem_nil) }
    rcases List.mem_cons.mp hm with rfl | hm
    · exact hr hr'
    · exact hi.rem r hr' hm
  | @remove id ha =>
    refine { hi with lnodup := hi.lnodup.erase id, rem := fun r hr hm => ?_,
                     act := fun ev hev => absurd hev (ha ▸ List.not_mem_nil) }
    rcases List.mem_cons.mp hr with rfl | hr
    · exact hi.lnodup.not_mem_erase hm
    · exact hi.rem r hr (List.mem_of_mem_erase hm)
  | @emitBegin ev hna hnf =>
    -- nothing has been logged for `ev` yet
    have hzero (id : Nat) : s.log.count (ev, id) = 0 :=
      List.count_eq_zero.mpr fun hm => (hi.logev _ hm).elim hna hnf
    refine { hi with anodup := List.nodup_cons.mpr ⟨hna, hi.anodup⟩, afresh := fun k hk => ?_, act := fun k hk => ?_,
                     logev := fun p hp => (hi.logev p hp).imp_left (List.mem_cons_of_mem _), fin := fun k hk id => ?_ }
    · rcases List.mem_cons.mp hk with rfl | hk
      · exact hnf
      · exact hi.afresh k hk
    · rcases List.mem_cons.mp hk with rfl | hk
      · simp only [updE_same]
        exact ⟨fun id hid => hid, hi.lnodup, List.append_nil _ ▸ .refl _, hzero⟩
      · simp only [updE_other (ne_of_mem_of_not_mem hk hna)]; exact hi.act k hk
    · simp only [updE_other (ne_of_mem_of_not_mem hk hnf)]; exact hi.fin k hk id
  | @deliver ev id hact hpen =>
    refine { hi with act := fun k hk => ?_, logev := fun p hp => ?_, fin := fun k hk id' => ?_ }
    · obtain ⟨pm, sd, sn, cn⟩ := hi.act k hk
      by_cases hke : k = ev
      · subst hke
        simp only [updE_same]
        -- the listener called moves from those to be called to those called, in the emit and in the log
        exact ⟨fun id' hid' => pm id' (List.mem_of_mem_erase hid'), sd,
          sn.trans (((List.perm_cons_erase hpen).append_right _).trans List.perm_middle.symm),
          fun id' => by rw [List.count_cons, List.count_cons, cn id']; simp⟩
      · simp only [updE_other hke]
        exact ⟨pm, sd, sn, fun id' => (count_deliver_ne hke ..).trans (cn id')⟩
    · rcases List.mem_cons.mp hp with rfl | hp
      · exact .inl hact
      · exact hi.logev p hp
    · have hke : k ≠ ev := ne_of_mem_of_not_mem hk (hi.afresh ev hact)
      simp only [updE_other hke, count_deliver_ne hke]; exact hi.fin k hk id'
  | @emitEnd ev hact hpe =>
    refine { hi with anodup := hi.anodup.erase ev, afresh := fun k hk => ?_,
                     act := fun k hk => hi.act k (List.mem_of_mem_erase hk), logev := fun p hp => ?_,
                     fin := fun k hk id => ?_ }
    · exact List.not_mem_cons_of_ne_of_not_mem (fun e => hi.anodup.not_mem_erase (e ▸ hk))
        (hi.afresh k (List.mem_of_mem_erase hk))
    · rcases hi.logev p hp with h1 | h1
      · by_cases hpe' : p.1 = ev
        · exact .inr (hpe' ▸ List.mem_cons_self)
        · exact .inl ((List.mem_erase_of_ne hpe').mpr h1)
      · exact .inr (List.mem_cons_of_mem _ h1)
    · rcases List.mem_cons.mp hk with rfl | hk
      · -- an emit returns with nothing pending: those called are the snapshot, which has nobody twice
        obtain ⟨-, sd, sn, cn⟩ := hi.act k hact
        rw [hpe] at sn
        exact (cn id).trans ((sn.count_eq id).symm.trans sd.count)
      · exact hi.fin k hk id

end GoBatcher
