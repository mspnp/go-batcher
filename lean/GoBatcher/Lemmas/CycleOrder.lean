import GoBatcher.Lemmas.CycleShape
/-! Order inside a cycle (C05): every batch a step touches is an open batch with the operation appended (`FromStep`), so
every batch of a cycle is an open batch extended by a sublist of the buffer (`Extends`); seen through one class of
operations (a watcher's batchable ones, or the non-batchable ones) a step appends the operation to what the class has
received (`Took.fifo`), which gives FIFO per class when no operation is skipped (`Scans.fifo`). -/
namespace GoBatcher

/-- where a batch touched by one step comes from -/
def FromStep (a : Acc) (op : Op) (p : Batch) : Prop :=
  ∃ b, p = (op.w, b ++ [op]) ∧ (b = [] ∨ (op.w, b) ∈ a.openB)

variable {c : Cfg} {a a' : Acc} {op : Op} {out : Option Batch} {s : Bool} {buf : List Op} {free : Option Nat} {r : ScanOut}

theorem Took.entries (h : Took c a op a' out s) :
    (∀ p ∈ a'.openB, p ∈ a.openB ∨ FromStep a op p) ∧ (∀ p, out = some p → FromStep a op p) := by
  have new : FromStep a op (op.w, openOf op.w a.openB ++ [op]) := ⟨_, rfl, openOf_mem ..⟩
  cases h with
  | single => exact ⟨fun p hp => .inl hp, by rintro _ ⟨⟩; exact ⟨[], rfl, .inl rfl⟩⟩
  | fills => exact ⟨fun p hp => .inl (mem_eraseB hp), by rintro _ ⟨⟩; exact new⟩
  | joins =>
    refine ⟨fun p hp => ?_, nofun⟩
    rcases List.mem_cons.mp hp with rfl | hp
    · exact .inr new
    · exact .inl (mem_eraseB hp)

/-- Let `P` hold of the open batches, and let it survive one more operation of the batch's watcher (`hP`: of an empty batch,
or of one that has `P`). Then it holds of every batch the step leaves open and of the one it raises. -/
theorem Took.all {P : Batch → Prop}
    (hP : ∀ b, (b = [] ∨ P (op.w, b)) → P (op.w, b ++ [op])) (h : Took c a op a' out s) (ha : ∀ p ∈ a.openB, P p) :
    (∀ p ∈ a'.openB, P p) ∧ ∀ p, out = some p → P p := by
  have key : ∀ p, FromStep a op p → P p := fun p ⟨b, hb, hbo⟩ => hb ▸ hP b (hbo.imp_right (ha _))
  exact ⟨fun p hp => (h.entries.1 p hp).elim (ha p) (key p), fun p hp => key p (h.entries.2 p hp)⟩

/-- a batch seen at the end of a scan = (possibly) a batch that was already open ++ a sublist of the buffer -/
def Extends (a : Acc) (buf : List Op) (p : Batch) : Prop :=
  ∃ pre l, p.2 = pre ++ l ∧ l.Sublist buf ∧ (pre = [] ∨ (p.1, pre) ∈ a.openB)

theorem Extends.step {p : Batch}
    (hent : ∀ q ∈ a'.openB, q ∈ a.openB ∨ FromStep a op q) (h : Extends a' buf p) :
    Extends a (op :: buf) p := by
  obtain ⟨pre, l, he, hs, hp⟩ := h
  rcases hp with hp | hp
  · exact ⟨pre, l, he, hs.cons _, Or.inl hp⟩
  · rcases hent _ hp with h1 | ⟨b, hb, hbo⟩
    · exact ⟨pre, l, he, hs.cons _, Or.inr h1⟩
    · injection hb with hw hpre
      refine ⟨b, op :: l, ?_, hs.cons_cons _, ?_⟩
      · rw [he, hpre]; simp
      · rw [hw]; exact hbo

theorem Extends.refl {p : Batch} (buf : List Op) (hp : p ∈ a.openB) : Extends a buf p :=
  ⟨p.2, [], by simp, List.nil_sublist _, .inr hp⟩

theorem Scans.extends (h : Scans c buf a free r) : ∀ p ∈ r.raised ++ r.acc.openB, Extends a buf p := by
  induction h with
  | nil | stop => exact fun p hp => .refl _ hp
  | @skip op _ a _ _ _ _ _ ih => exact fun p hp => (ih p hp).step fun q hq => .inl hq
  | @take op buf _ _ _ _ _ _ _ _ ht _ ih =>
    intro p hp
    rcases List.mem_append.mp (List.append_assoc .. ▸ hp) with hp | hp
    · obtain ⟨b, rfl, hbo⟩ := ht.entries.2 p (Option.mem_toList.mp hp)
      exact ⟨b, [op], rfl, (List.nil_sublist buf).cons_cons op, hbo⟩
    · exact (ih p hp).step ht.entries.1


/-- batchable operations of watcher `w` -/
def selW (w : Nat) (o : Op) : Bool := decide (o.w = w) && o.batchable
/-- non-batchable operations -/
def selS (o : Op) : Bool := !o.batchable

theorem filter_selW {l : List Op} {w' : Nat} (h : ∀ o ∈ l, o.w = w' ∧ o.batchable = true) (w : Nat) :
    l.filter (selW w) = if w' = w then l else [] := by
  split
  · next e => exact List.filter_eq_self.mpr fun o ho => by simp [selW, h o ho, e]
  · next e => exact List.filter_eq_nil_iff.mpr fun o ho => by simp [selW, h o ho, e]

theorem filter_selS {l : List Op} (h : ∀ o ∈ l, o.batchable = true) : l.filter selS = [] :=
  List.filter_eq_nil_iff.mpr fun o ho => by simp [selS, h o ho]

theorem Took.fifo (h : Took c a op a' out s) (hok : OpenOK c a.openB) (w : Nat) :
    (opsOf out.toList).filter (selW w) ++ openOf w a'.openB = openOf w a.openB ++ [op].filter (selW w) ∧
    (opsOf out.toList).filter selS = [op].filter selS := by
  cases h with
  | single hop => simp [selW, selS, hop]
  | fills hop | joins hop =>
    have hall := openOf_snoc_own hok hop
    have hop1 : ∀ o ∈ [op], o.w = op.w ∧ o.batchable = true := fun o ho => hall o (List.mem_append_right _ ho)
    simp only [Option.toList_some, Option.toList_none, opsOf_cons, opsOf_nil, List.append_nil, List.filter_nil,
      List.nil_append, openOf_cons, filter_selW hall, filter_selW hop1, filter_selS fun o ho => (hall o ho).2,
      filter_selS fun o ho => (hop1 o ho).2, and_true]
    split
    · next e => subst e; simp [openOf_eraseB_self _ hok.2]
    · next e => simp [openOf_eraseB_ne _ e]

/-- FIFO per class for a whole uninterrupted cycle in which no operation is skipped (so without a slot limit): what
watcher `w` received in batchable batches (raise order, then its open batch) is exactly the `w`-batchable subsequence of
the scanned prefix; the singles are exactly its non-batchable subsequence. -/
theorem Scans.fifo (h : Scans c buf a free r) (hk : r.kept = []) (hok : OpenOK c a.openB) (w : Nat) :
    ∃ pre, buf = pre ++ r.rest ∧
      (opsOf r.raised).filter (selW w) ++ openOf w r.acc.openB = openOf w a.openB ++ pre.filter (selW w) ∧
      (opsOf r.raised).filter selS = pre.filter selS := by
  induction h with
  | nil | stop => exact ⟨[], by simp⟩
  | skip => cases hk
  | @take op _ _ _ _ _ _ _ _ _ ht _ ih =>
    obtain ⟨hW, hS⟩ := ht.fifo hok w
    obtain ⟨pre, h1, h2, h3⟩ := ih hk (ht.shape hok).1
    refine ⟨op :: pre, congrArg _ h1, ?_, ?_⟩
    · rw [opsOf_append, List.filter_append, List.append_assoc, h2, ← List.append_assoc, hW, List.append_assoc,
        ← List.filter_append, List.singleton_append]
    · rw [opsOf_append, List.filter_append, h3, hS, ← List.filter_append, List.singleton_append]

end GoBatcher
