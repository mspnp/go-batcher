import GoBatcher.Lemmas.Lease
import GoBatcher.Lemmas.LeaseWF
/-! Initial states and reachability of M-Lease: `LWF` and `Excl` hold in every reachable state. -/
namespace GoBatcher

def Configured (inst : Nat → LInst) : Prop := ∀ i, ∃ g f r sh, inst i = LInst.init g f r sh

def initSt (lease : Nat) (inst : Nat → LInst) : LSt := { now := 0, lease := lease, store := fun _ => none, inst := inst }

theorem init_iwf (lease : Nat) (g : LGen) (f r sh : Nat) : IWF 0 lease (LInst.init g f r sh) := by
  refine ⟨?_, ?_, ?_, ?_, ?_, ?_, ?_, ?_, ?_, ?_⟩ <;> simp [LInst.init, maxPartitions]

theorem init_lwf (lease : Nat) (inst : Nat → LInst) (h : Configured inst) : LWF (initSt lease inst) := by
  intro i
  obtain ⟨g, f, r, sh, e⟩ := h i
  simp only [initSt, e]
  exact init_iwf lease g f r sh

theorem init_excl (lease : Nat) (inst : Nat → LInst)
    (h : ∀ i, (inst i).held = [] ∧ (inst i).timers = [] ∧ (inst i).call = none) (n : Nat) :
    Excl (initSt lease inst) ∧ Inert n (initSt lease inst) := by
  refine ⟨(excl_iff _).mpr fun i => ?_, fun i _ => ⟨(h i).2.1, (h i).1, (h i).2.2⟩⟩
  obtain ⟨hh, ht, hc⟩ := h i
  show IExcl _ _ _ i (inst i)
  exact ⟨fun p hp => (by rw [hh] at hp; cases hp), fun _ _ h1 => (by rw [hc] at h1; cases h1),
    fun _ h1 => (by rw [hc] at h1; cases h1), fun p c hm => (by rw [ht] at hm; cases hm)⟩

theorem configured_fresh {inst : Nat → LInst} (h : Configured inst) (i : Nat) :
    (inst i).held = [] ∧ (inst i).timers = [] ∧ (inst i).call = none := by
  obtain ⟨g, f, r, sh, e⟩ := h i
  rw [e]; exact ⟨rfl, rfl, rfl⟩

theorem run_excl_inert (n : Nat) (ls : List LLabel) (s s' : LSt) (h : lrun n s ls = some s') (he : Excl s) (hi : Inert n s) :
    Excl s' ∧ Inert n s' :=
  lrun_induct (P := fun s => Excl s ∧ Inert n s) h (fun l _ s s' hs hp => step_excl n s s' l hs hp.2 hp.1) ⟨he, hi⟩

def LReach (n lease : Nat) (inst : Nat → LInst) (s : LSt) : Prop := ∃ ls, lrun n (initSt lease inst) ls = some s

theorem reach_lwf {n lease : Nat} {inst : Nat → LInst} (hc : Configured inst) {s : LSt} (h : LReach n lease inst s) : LWF s := by
  obtain ⟨ls, h⟩ := h
  exact lrun_induct h (fun l _ s s' => step_lwf n s s' l) (init_lwf lease inst hc)

theorem reach_excl {n lease : Nat} {inst : Nat → LInst} (hc : Configured inst) {s : LSt} (h : LReach n lease inst s) : Excl s := by
  obtain ⟨ls, h⟩ := h
  have h0 := init_excl lease inst (configured_fresh hc) n
  exact (run_excl_inert n ls _ s h h0.1 h0.2).1

theorem reach_run {n lease : Nat} {inst : Nat → LInst} {s s' : LSt} (h : LReach n lease inst s) (ls : List LLabel)
    (hs : lrun n s ls = some s') : LReach n lease inst s' := by
  obtain ⟨l0, h⟩ := h
  exact ⟨l0 ++ ls, by rw [lrun_append, h]; exact hs⟩

theorem reach_step {n lease : Nat} {inst : Nat → LInst} {s s' : LSt} (h : LReach n lease inst s) (l : LLabel)
    (hs : lstep n s l = some s') : LReach n lease inst s' :=
  reach_run h [l] (by rw [lrun, hs]; rfl)

end GoBatcher
