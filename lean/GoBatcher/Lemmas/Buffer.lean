import GoBatcher.Model.Buffer
import GoBatcher.Lemmas.Run
/-! The cursor operations of the L1 buffer are one operation at three positions: `seek` puts the cursor on a position and
returns the record there (`top`: the head; `skip`: one further; `remove`: where the cursor stands, the record under it
erased first). The transitions of the blocked-caller machine as rules: `BufM.Step wos m l m'` has one rule per enabled
branch of `BufM.step`, `BufM.Step.of_step` inverts `BufM.step` once, and an invariant is proved by cases on the rule and
carried along a run by `BufM.run_induct`. -/
namespace GoBatcher

/-- cursor to position `j`, to nil when there is no record there -/
def Buf.seek (b : Buf) (j : Nat) : Buf × Option Op :=
  ({ b with cur := (b.items[j]?).map fun _ => j }, b.items[j]?)

theorem Buf.top_seek (b : Buf) : b.top = b.seek 0 := by
  unfold Buf.top Buf.seek; cases b.items <;> rfl

theorem Buf.skip_seek {b : Buf} {i : Nat} (h : b.cur = some i) : b.skip = b.seek (i + 1) := by
  simp only [Buf.skip, h, Buf.seek]; cases b.items[i + 1]? <;> rfl

theorem Buf.remove_seek {b : Buf} {i : Nat} (h : b.cur = some i) :
    b.remove = { b with items := b.items.eraseIdx i }.seek i := by
  simp only [Buf.remove, h, Buf.seek]; cases (b.items.eraseIdx i)[i]? <;> rfl

theorem Buf.seek_cur_lt {b : Buf} {j k : Nat} (h : (b.seek j).1.cur = some k) : k < b.items.length := by
  obtain ⟨o, ho, rfl⟩ := Option.map_eq_some_iff.mp h
  exact (List.getElem?_eq_some_iff.mp ho).1

theorem Buf.remove_items {b : Buf} {i : Nat} (h : b.cur = some i) : b.remove.1.items = b.items.eraseIdx i := by
  rw [Buf.remove_seek h]; rfl

theorem Buf.top_items (b : Buf) : b.top.1.items = b.items := by rw [Buf.top_seek]; rfl
theorem Buf.skip_items (b : Buf) : b.skip.1.items = b.items := by
  cases h : b.cur with
  | none => simp only [Buf.skip, h]
  | some i => rw [Buf.skip_seek h]; rfl

inductive BufM.Step (wos : Bool) (m : BufM) : BufLabel → BufM → Prop
  | enqShut (k : Nat) (op : Op) (eof : Bool) (hs : m.buf.shut = true) :
      Step wos m (.enq k op eof) { m with returned := m.returned ++ [(k, .shutdown)] }
  | enqFull (k : Nat) (op : Op) (hs : m.buf.shut = false) (hf : m.buf.items.length ≥ m.buf.cap) :
      Step wos m (.enq k op true) { m with returned := m.returned ++ [(k, .full)] }
  | enqWait (k : Nat) (op : Op) (hs : m.buf.shut = false) (hf : m.buf.items.length ≥ m.buf.cap) :
      Step wos m (.enq k op false) { m with waiting := m.waiting ++ [(k, op)] }
  | enqOk (k : Nat) (op : Op) (eof : Bool) (hs : m.buf.shut = false) (hr : m.buf.items.length < m.buf.cap) :
      Step wos m (.enq k op eof)
        { m with buf := { m.buf with items := m.buf.items ++ [op] }, returned := m.returned ++ [(k, .ok)] }
  | retryShut {k : Nat} {w : Nat × Op} (hf : m.woken.find? (·.1 == k) = some w)
      (hs : wos = true ∧ m.buf.shut = true) :
      Step wos m (.retry k) { m with woken := m.woken.erase w, returned := m.returned ++ [(k, .shutdown)] }
  | retryWait {k : Nat} {w : Nat × Op} (hf : m.woken.find? (·.1 == k) = some w)
      (hs : (wos && m.buf.shut) = false) (hfull : m.buf.items.length ≥ m.buf.cap) :
      Step wos m (.retry k) { m with woken := m.woken.erase w, waiting := m.waiting ++ [(k, w.2)] }
  | retryOk {k : Nat} {w : Nat × Op} (hf : m.woken.find? (·.1 == k) = some w)
      (hs : (wos && m.buf.shut) = false) (hr : m.buf.items.length < m.buf.cap) :
      Step wos m (.retry k)
        { m with woken := m.woken.erase w, buf := { m.buf with items := m.buf.items ++ [w.2] },
                 returned := m.returned ++ [(k, .ok)] }
  | top : Step wos m .top { m with buf := (m.buf.seek 0).1 }
  | skipNone (hc : m.buf.cur = none) : Step wos m .skip m
  | skip {i : Nat} (hc : m.buf.cur = some i) : Step wos m .skip { m with buf := (m.buf.seek (i + 1)).1 }
  | removeNone (hc : m.buf.cur = none) : Step wos m .remove m
  | removeQuiet {i : Nat} (hc : m.buf.cur = some i) (hw : m.waiting = []) :
      Step wos m .remove { m with buf := ({ m.buf with items := m.buf.items.eraseIdx i }.seek i).1 }
  | removeWake {i : Nat} {w : Nat × Op} {rest : List (Nat × Op)} (hc : m.buf.cur = some i) (hw : m.waiting = w :: rest) :
      Step wos m .remove
        { m with buf := ({ m.buf with items := m.buf.items.eraseIdx i }.seek i).1,
                 waiting := rest, woken := m.woken ++ [w] }
  | shutdownWake (hw : wos = true) :
      Step wos m .shutdown { m with buf := m.buf.shutdown, waiting := [], woken := m.woken ++ m.waiting }
  | shutdown (hw : wos = false) : Step wos m .shutdown { m with buf := m.buf.shutdown }

theorem BufM.Step.of_step {wos : Bool} {m m' : BufM} {l : BufLabel} (h : m.step wos l = some m') :
    BufM.Step wos m l m' := by
  revert h m'
  -- a branch that returns `none` is closed by `cases h` (so `case5`, the retry of a caller that is not woken, is absent below)
  fun_cases BufM.step wos m l <;> intro m' h <;> cases h
  case case1 k op eof hs => exact .enqShut k op eof hs
  case case2 k op hs hf => exact .enqFull k op ((Bool.not_eq_true _).mp hs) hf
  case case3 k op eof hs hf he =>
    cases (Bool.not_eq_true _).mp he; exact .enqWait k op ((Bool.not_eq_true _).mp hs) hf
  case case4 k op eof hs hf => exact .enqOk k op eof ((Bool.not_eq_true _).mp hs) (Nat.not_le.mp hf)
  case case6 k w hf _ hs => exact .retryShut hf (Bool.and_eq_true_iff.mp hs)
  case case7 k w hf _ _ hs hfull => exact .retryWait hf ((Bool.not_eq_true _).mp hs) hfull
  case case8 k w hf _ _ hs hr => exact .retryOk hf ((Bool.not_eq_true _).mp hs) (Nat.not_le.mp hr)
  case case9 => rw [Buf.top_seek]; exact .top
  case case10 =>
    cases hc : m.buf.cur with
    | none => simp only [Buf.skip, hc]; exact .skipNone hc
    | some i => rw [Buf.skip_seek hc]; exact .skip hc
  case case11 hc => exact .removeNone hc
  case case12 i hi =>
    rw [Buf.remove_seek hi]
    unfold signalOne
    split
    · exact .removeQuiet hi ‹_›
    · exact .removeWake hi ‹_›
  case case13 hw => exact .shutdownWake hw
  case case14 hw => exact .shutdown ((Bool.not_eq_true _).mp hw)

theorem BufM.run_induct {wos : Bool} {P : BufM → Prop} (hstep : ∀ m m' l, m.step wos l = some m' → P m → P m')
    (ls : List BufLabel) (m m' : BufM) (h : BufM.run wos m ls = some m') : P m → P m' :=
  run_induct_of (fun _ => rfl) (fun _ _ _ => rfl) h fun l _ m m' => hstep m m' l

end GoBatcher
