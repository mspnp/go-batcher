import GoBatcher.Lemmas.Cycle
/-! Progress (C08): what a cycle leaves buffered is a sublist of the buffer, without its head when the cycle is
productive; an element of a sublist is no further from the head than in the list. -/
namespace GoBatcher

theorem Scans.buffer_sublist {c : Cfg} {buf : List Op} {a : Acc} {free : Option Nat} {r : ScanOut}
    (h : Scans c buf a free r) : (r.kept ++ r.rest).Sublist buf := by
  induction h with
  | nil | stop => exact .refl _
  | skip _ _ _ ih => exact ih.cons_cons _
  | take _ _ _ _ ih => exact ih.cons _

theorem Scans.head_released {c : Cfg} {op : Op} {buf : List Op} {a : Acc} {free : Option Nat} {r : ScanOut}
    (h : Scans c (op :: buf) a free r) (hc : cutoff c a.consumed = false) (hs : slotAvail free = true) :
    (r.kept ++ r.rest).Sublist buf := by
  cases h with
  | stop hc' => rw [hc] at hc'; cases hc'
  | skip _ hs' => rw [hs] at hs'; cases hs'
  | take _ _ _ hr => exact hr.buffer_sublist

theorem idxOf_cons_ne {a x : Op} {l : List Op} (h : a ≠ x) : (a :: l).idxOf x = l.idxOf x + 1 := by
  rw [List.idxOf_cons]
  have : (a == x) = false := by simpa using h
  simp [this]

theorem idxOf_sublist_le {x : Op} {l' l : List Op} (h : l'.Sublist l) (hn : l.Nodup) (hx : x ∈ l') :
    l'.idxOf x ≤ l.idxOf x := by
  induction h with
  | slnil => simp at hx
  | cons a h ih =>
    rename_i l₁ l₂
    have hn' := (List.nodup_cons.mp hn)
    have hxl : x ∈ l₂ := h.subset hx
    have hne : a ≠ x := fun e => hn'.1 (e ▸ hxl)
    rw [idxOf_cons_ne hne]
    have := ih hn'.2 hx
    omega
  | cons_cons a h ih =>
    have hn' := (List.nodup_cons.mp hn)
    by_cases he : a = x
    · subst he; simp
    · rw [idxOf_cons_ne he, idxOf_cons_ne he]
      have := ih hn'.2 ((List.mem_cons.mp hx).resolve_left (Ne.symm he))
      omega

end GoBatcher
