import GoBatcher.Lemmas.Cycle
/-! Shape of the batches of a cycle (C05) and its batch slots (C10): a step keeps the open batches well formed and raises
only singles and exactly-full batches (`Took.shape`), and reserves a slot exactly when it begins a batch (`Took.count`);
`Scans.shape`, `Scans.slots` carry both along a cycle. -/
namespace GoBatcher

/-- a well-formed *open* batch of watcher `w`: non-empty, all own & batchable, not yet full -/
def OpenBatchOK (c : Cfg) (p : Batch) : Prop :=
  p.2 ≠ [] ∧ (∀ o ∈ p.2, o.w = p.1 ∧ o.batchable = true) ∧ isFull c p.1 p.2.length = false

def OpenOK (c : Cfg) (bs : List Batch) : Prop :=
  (∀ p ∈ bs, OpenBatchOK c p) ∧ (bs.map (·.1)).Nodup

/-- a well-formed *raised* batch: either a lone non-batchable operation, or own batchable operations
within the size limit -/
def RaisedOK (c : Cfg) (p : Batch) : Prop :=
  p.2 ≠ [] ∧ (∀ o ∈ p.2, o.w = p.1) ∧
  ((∃ o, p.2 = [o] ∧ o.batchable = false) ∨
   ((∀ o ∈ p.2, o.batchable = true) ∧ (c.mb p.1 > 0 → p.2.length ≤ c.mb p.1)))

/-- raised in the middle of a cycle: a single, or a batch that is exactly full -/
def MidRaisedOK (c : Cfg) (p : Batch) : Prop :=
  RaisedOK c p ∧ ((∃ o, p.2 = [o] ∧ o.batchable = false) ∨ (c.mb p.1 > 0 ∧ p.2.length = c.mb p.1))

theorem OpenOK_nil (c : Cfg) : OpenOK c [] := by simp [OpenOK]

theorem OpenOK.openOf {c : Cfg} {l : List Batch} (h : OpenOK c l) (w : Nat) :
    (∀ o ∈ openOf w l, o.w = w ∧ o.batchable = true) ∧ isFull c w (openOf w l).length = false := by
  rcases openOf_mem w l with e | hm
  · rw [e]; exact ⟨nofun, isFull_eq_false.mpr id⟩
  · exact (h.1 _ hm).2

theorem openOf_snoc_own {c : Cfg} {l : List Batch} (hok : OpenOK c l) {op : Op} (hop : op.batchable = true) :
    ∀ o ∈ openOf op.w l ++ [op], o.w = op.w ∧ o.batchable = true := by
  intro o ho
  rcases List.mem_append.mp ho with ho | ho
  · exact (hok.openOf op.w).1 o ho
  · cases List.mem_singleton.mp ho; exact ⟨rfl, hop⟩

theorem OpenBatchOK.raised {c : Cfg} {p : Batch} (h : OpenBatchOK c p) : RaisedOK c p :=
  ⟨h.1, fun o ho => (h.2.1 o ho).1, Or.inr ⟨fun o ho => (h.2.1 o ho).2, fun hm => Nat.le_of_lt (isFull_eq_false.mp h.2.2 hm)⟩⟩

variable {c : Cfg} {a a' : Acc} {op : Op} {out : Option Batch} {s : Bool} {buf : List Op} {free : Option Nat} {r : ScanOut}

theorem Took.shape (h : Took c a op a' out s) (hok : OpenOK c a.openB) :
    OpenOK c a'.openB ∧ ∀ p, out = some p → MidRaisedOK c p := by
  have hnd := eraseB_nodup (w := op.w) hok.2
  have hnf := (hok.openOf op.w).2
  cases h with
  | single hop =>
    refine ⟨hok, ?_⟩
    rintro _ ⟨⟩
    exact ⟨⟨by simp, by simp, .inl ⟨op, rfl, hop⟩⟩, .inl ⟨op, rfl, hop⟩⟩
  | fills hop hf =>
    refine ⟨⟨fun p hp => hok.1 p (mem_eraseB hp), hnd.1⟩, ?_⟩
    rintro _ ⟨⟩
    have hex := isFull_iff.mp hf
    have hlen : (openOf op.w a.openB ++ [op]).length = c.mb op.w :=
      List.length_append ▸ Nat.le_antisymm (isFull_eq_false.mp hnf hex.1) hex.2
    exact ⟨⟨by simp, fun o ho => (openOf_snoc_own hok hop o ho).1, .inr ⟨fun o ho => (openOf_snoc_own hok hop o ho).2, fun _ => Nat.le_of_eq hlen⟩⟩,
      .inr ⟨hex.1, hlen⟩⟩
  | joins hop hf =>
    refine ⟨⟨?_, List.nodup_cons.mpr ⟨hnd.2, hnd.1⟩⟩, nofun⟩
    intro p hp
    rcases List.mem_cons.mp hp with rfl | hp
    · exact ⟨by simp, openOf_snoc_own hok hop, by simpa using hf⟩
    · exact hok.1 p (mem_eraseB hp)

theorem Scans.shape (h : Scans c buf a free r) (hok : OpenOK c a.openB) :
    OpenOK c r.acc.openB ∧ ∀ p ∈ r.raised, MidRaisedOK c p := by
  induction h with
  | nil | stop => exact ⟨hok, nofun⟩
  | skip _ _ _ ih => exact ih hok
  | take _ _ ht _ ih =>
    have h1 := ht.shape hok
    refine ⟨(ih h1.1).1, fun p hp => ?_⟩
    rcases List.mem_append.mp hp with hp | hp
    · exact h1.2 p (Option.mem_toList.mp hp)
    · exact (ih h1.1).2 p hp


def slotsTaken (free free' : Option Nat) : Nat :=
  match free, free' with
  | some n, some n' => n - n'
  | _, _ => 0

theorem Took.count (h : Took c a op a' out s) :
    out.toList.length + a'.openB.length = a.openB.length + (if s then 1 else 0) := by
  cases h with
  | single => exact Nat.add_comm ..
  | fills => exact (Nat.add_comm ..).trans (eraseB_length ..)
  | joins => exact (Nat.zero_add _).trans (eraseB_length ..)

theorem Scans.slots {n : Nat} (h : Scans c buf a (some n) r) :
    ∃ n', r.free = some n' ∧ n' ≤ n ∧ r.raised.length + r.acc.openB.length + n' = a.openB.length + n := by
  generalize hf : some n = free at h
  induction h generalizing n with
  | nil | stop => subst hf; exact ⟨n, rfl, Nat.le_refl _, Nat.zero_add _ ▸ rfl⟩
  | skip _ _ _ ih => exact ih hf
  | @take _ _ _ _ _ out s r _ hav ht _ ih =>
    subst hf
    -- `k` slots are reserved by this step, and there were that many
    obtain ⟨k, hk⟩ : ∃ k, k = if s then 1 else 0 := ⟨_, rfl⟩
    have hkn : k ≤ n := by
      cases s
      · exact hk ▸ Nat.zero_le _
      · exact hk ▸ of_decide_eq_true (hav rfl)
    obtain ⟨n', h1, h2, h3⟩ := ih (n := n - k) (by cases s <;> exact hk ▸ rfl)
    have hc := hk ▸ ht.count
    refine ⟨n', h1, Nat.le_trans h2 (Nat.sub_le ..), ?_⟩
    show (out.toList ++ r.raised).length + r.acc.openB.length + _ = _
    rw [List.length_append]; omega

end GoBatcher
