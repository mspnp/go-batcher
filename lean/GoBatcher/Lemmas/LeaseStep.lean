import GoBatcher.Model.Lease
import GoBatcher.Lemmas.Run
/-! The step of M-Lease as a relation. `IStep` says what a label of instance `i` does to that instance and to the store,
one rule per enabled branch of `lstepCore`; `LStep` says that a step is the clock's or such a step of one instance `i < n`.
`LStep.of_lstep` inverts `lstep` once; `step_inst` is the same seen from one instance. As for M-Batcher (`Lemmas/BatcherStep.lean`)
a rule is taken apart by `induction` where the label is a variable and by `cases` where it is given. Runs: `lrun_induct`. -/
namespace GoBatcher

@[simp] theorem updI_same (f : Nat → LInst) (i : Nat) (x : LInst) : updI f i x i = x := if_pos rfl
theorem updI_other {f : Nat → LInst} {i j : Nat} {x : LInst} (h : j ≠ i) : updI f i x j = f j := if_neg h
theorem updI_self (f : Nat → LInst) (i : Nat) : updI f i (f i) = f := by
  funext j; unfold updI; split
  · rename_i h; rw [h]
  · rfl
theorem updI_updI (f : Nat → LInst) (i : Nat) (x y : LInst) : updI (updI f i x) i y = updI f i y := by
  funext j; unfold updI; split <;> rfl
theorem updS_same (f : Nat → Option (Nat × Nat)) (p : Nat) (x : Option (Nat × Nat)) : updS f p x p = x := if_pos rfl
theorem updS_other {f : Nat → Option (Nat × Nat)} {p q : Nat} {x : Option (Nat × Nat)} (h : q ≠ p) : updS f p x q = f q :=
  if_neg h

theorem lCanAdvance_iff (s : LSt) (n dt : Nat) :
    lCanAdvance s n dt = true ↔ 0 < dt ∧ ∀ i, i < n → ∀ t, t ∈ (s.inst i).timers → s.now + dt ≤ t.2 := by
  simp only [lCanAdvance, Bool.and_eq_true, decide_eq_true_eq, List.all_eq_true, List.mem_range]

theorem mem_afterGrant_held {x : LInst} {cl : LCall} {lease q : Nat} :
    q ∈ (afterGrant x cl lease).held ↔ q ∈ x.held ∨ q = cl.part := by
  show q ∈ (if x.held.contains cl.part then x.held else x.held ++ [cl.part]) ↔ _
  split
  · rename_i h
    exact ⟨Or.inl, fun h' => h'.elim id fun e => e ▸ List.contains_iff_mem.mp h⟩
  · rw [List.mem_append, List.mem_singleton]

/-- `x` is the instance before the step, `st` the store, `now` the time, `lease` the lease duration; each rule has the guard of
its branch as premises. -/
inductive IStep (now lease : Nat) (st : Nat → Option (Nat × Nat)) (i : Nat) (x : LInst) :
    LLabel → LInst → (Nat → Option (Nat × Nat)) → Prop
  | startOk (hp : x.phase = .uninit) (ha : x.alive = true) (hv1 : x.gen = .v1 → ceilDivN x.shared x.factor ≤ maxPartitions) :
      IStep now lease st i x (.start i true) { x with phase := .started, loopOn := true, needProvision := true } st
  | startFail (ok : Bool) (hp : x.phase = .uninit) (ha : x.alive = true)
      (hf : ok = false ∨ x.gen = .v1 ∧ maxPartitions < ceilDivN x.shared x.factor) : IStep now lease st i x (.start i ok) x st
  | giveMe (v : Nat) : IStep now lease st i x (.giveMe i v) { x with target := neededPartitions x v } st
  | setReserved (v : Nat) (hg : x.gen = .v2) : IStep now lease st i x (.setReserved i v) { x with reserved := v } st
  | setShared (v : Nat) (hg : x.gen = .v2) :
      IStep now lease st i x (.setShared i v) { x with shared := v, needProvision := true } st
  | provision (hon : x.loopOn = true) (hnp : x.needProvision = true) (hc : x.call = none) :
      IStep now lease st i x (.provision i)
        { x with parts := partitionCount x.gen x.shared x.factor,
                 held := x.held.filter (· < partitionCount x.gen x.shared x.factor), needProvision := false } st
  | issue (p : Nat) (hon : x.loopOn = true) (ha : x.alive = true) (hc : x.call = none) (hd : x.held.length < x.target)
      (hp : p < x.parts) (hh : p ∉ x.held) :
      IStep now lease st i x (.issue i p) { x with call := some { part := p, issuedAt := now, result := none } } st
  | grant (cl : LCall) (hc : x.call = some cl) (hr : cl.result = none) (hf : freeAt (st cl.part) now = true) :
      IStep now lease st i x (.proc i true) { x with call := some { cl with result := some (some (now + lease)) } }
        (updS st cl.part (some (i, now + lease)))
  | refuse (g : Bool) (cl : LCall) (hc : x.call = some cl) (hr : cl.result = none)
      (hf : g = false ∨ freeAt (st cl.part) now = false) :
      IStep now lease st i x (.proc i g) { x with call := some { cl with result := some none } } st
  /-- a refusal, or a grant that comes back when the lease counted from the request is over, is dropped -/
  | retDrop (cl : LCall) (hc : x.call = some cl)
      (hr : cl.result = some none ∨ ∃ u, cl.result = some (some u) ∧ cl.issuedAt + lease ≤ now) :
      IStep now lease st i x (.ret i) { x with call := none } st
  | retGrant (cl : LCall) (u : Nat) (hc : x.call = some cl) (hr : cl.result = some (some u))
      (ht : now < cl.issuedAt + lease) : IStep now lease st i x (.ret i) (afterGrant x cl lease) st
  | expire (p c : Nat) (hm : (p, c) ∈ x.timers) (hd : c ≤ now) :
      IStep now lease st i x (.expire i p c) { x with timers := x.timers.erase (p, c), held := x.held.filter (· != p) } st
  | stop (hon : x.loopOn = true) (hc : x.call = none) :
      IStep now lease st i x (.stop i) { x with loopOn := false, phase := .stopped, shutdowns := x.shutdowns + 1 } st
  | crash : IStep now lease st i x (.crash i) { x with alive := false, loopOn := false } st

inductive LStep (n : Nat) (s : LSt) : LLabel → LSt → Prop
  | advance (dt : Nat) (hd : 0 < dt) (hl : ∀ i, i < n → ∀ t, t ∈ (s.inst i).timers → s.now + dt ≤ t.2) :
      LStep n s (.advance dt) { s with now := s.now + dt }
  | inst {i : Nat} {l : LLabel} {x' : LInst} {st' : Nat → Option (Nat × Nat)} (hi : i < n)
      (h : IStep s.now s.lease s.store i (s.inst i) l x' st') :
      LStep n s l { s with store := st', inst := updI s.inst i x' }

theorem lstepCore_of_lstep {n : Nat} {s s' : LSt} {l : LLabel} (h : lstep n s l = some s') :
    lstepCore n s l = some s' ∧ ∀ i, l.inst? = some i → i < n := by
  unfold lstep at h
  split at h
  · rename_i i hl
    split at h
    · exact ⟨h, fun j hj => by rw [hl] at hj; cases hj; assumption⟩
    · cases h
  · rename_i hl
    exact ⟨h, fun j hj => by rw [hl] at hj; cases hj⟩

/-- the shape in which `LStep.inst` returns the state when the rule (`startFail`) leaves the instance as it is -/
theorem LSt.updI_inst_self (s : LSt) (i : Nat) : { s with store := s.store, inst := updI s.inst i (s.inst i) } = s := by
  rw [updI_self]

theorem LStep.of_lstep {n : Nat} {s s' : LSt} {l : LLabel} (h : lstep n s l = some s') : LStep n s l s' := by
  obtain ⟨h, hn⟩ := lstepCore_of_lstep h
  -- the guards are decoded here, for every label at once; `start`, `proc` and `ret` have further branches
  cases l with
    simp only [lstepCore, Option.ite_none_right_eq_some, Option.some.injEq, Bool.and_eq_true, beq_iff_eq,
      Option.isNone_iff_eq_none, decide_eq_true_eq, Bool.not_eq_true', List.contains_eq_mem, decide_eq_false_iff_not,
      Bool.and_eq_false_iff, beq_eq_false_iff_ne, lCanAdvance_iff] at h
  | advance dt => obtain ⟨⟨hd, hl⟩, rfl⟩ := h; exact .advance dt hd hl
  | giveMe i v => subst h; exact .inst (hn i rfl) (.giveMe v)
  | setReserved i v => obtain ⟨hg, rfl⟩ := h; exact .inst (hn i rfl) (.setReserved v hg)
  | setShared i v => obtain ⟨hg, rfl⟩ := h; exact .inst (hn i rfl) (.setShared v hg)
  | provision i => obtain ⟨⟨⟨hon, hnp⟩, hc⟩, rfl⟩ := h; exact .inst (hn i rfl) (.provision hon hnp hc)
  | issue i p =>
    obtain ⟨⟨⟨⟨⟨⟨hon, ha⟩, hc⟩, hd⟩, hp⟩, hh⟩, rfl⟩ := h
    exact .inst (hn i rfl) (.issue p hon ha hc hd hp hh)
  | expire i p c => obtain ⟨⟨hm, hd⟩, rfl⟩ := h; exact .inst (hn i rfl) (.expire p c hm hd)
  | stop i => obtain ⟨⟨hon, hc⟩, rfl⟩ := h; exact .inst (hn i rfl) (.stop hon hc)
  | crash i => subst h; exact .inst (hn i rfl) .crash
  | start i ok =>
    obtain ⟨⟨hp, ha⟩, h⟩ := h
    split at h <;> cases h <;> rename_i hok
    · obtain ⟨rfl, hok⟩ := hok
      exact .inst (hn i rfl) (.startOk hp ha fun hv => Nat.le_of_not_lt (hok.resolve_left (absurd hv)))
    · have hf : ok = false ∨ (s.inst i).gen = .v1 ∧ maxPartitions < ceilDivN (s.inst i).shared (s.inst i).factor := by
        cases ok
        · exact Or.inl rfl
        · simpa using hok
      have := LStep.inst (s := s) (hn i rfl) (.startFail ok hp ha hf)
      rwa [s.updI_inst_self] at this
  | proc i g =>
    split at h
    · rename_i cl hcl
      split at h
      · cases h
      · rename_i hres
        have hres := Option.not_isSome_iff_eq_none.mp hres
        split at h <;> cases h <;> rename_i hg
        · obtain ⟨rfl, hg⟩ := hg
          exact .inst (hn i rfl) (.grant cl hcl hres hg)
        · refine .inst (hn i rfl) (.refuse g cl hcl hres ?_)
          cases g
          · exact Or.inl rfl
          · exact Or.inr (Bool.eq_false_iff.mpr fun hf => hg ⟨rfl, hf⟩)
    · cases h
  | ret i =>
    split at h
    · rename_i cl hcl
      split at h
      · cases h
      · cases h
        exact .inst (hn i rfl) (.retDrop cl hcl (Or.inl ‹_›))
      · rename_i u hres
        split at h <;> cases h <;> rename_i hl
        · exact .inst (hn i rfl) (.retDrop cl hcl (Or.inr ⟨u, hres, hl⟩))
        · exact .inst (hn i rfl) (.retGrant cl u hcl hres (Nat.lt_of_not_le hl))
    · cases h

theorem lstep_none {n : Nat} {s : LSt} {l : LLabel} (h : ∀ s', ¬ LStep n s l s') : lstep n s l = none :=
  Option.eq_none_iff_forall_ne_some.mpr fun s' hs => h s' (.of_lstep hs)

theorem step_inst {n : Nat} {s s' : LSt} {l : LLabel} (h : lstep n s l = some s') (i : Nat) :
    s'.inst i = s.inst i ∨ ∃ x' st', IStep s.now s.lease s.store i (s.inst i) l x' st' ∧ s'.inst i = x' := by
  cases LStep.of_lstep h with
  | advance => exact Or.inl rfl
  | @inst j _ x' st' _ hs =>
    by_cases hj : i = j
    · subst hj; exact Or.inr ⟨x', st', hs, updI_same _ _ _⟩
    · exact Or.inl (updI_other hj)

theorem step_lease (n : Nat) (s s' : LSt) (l : LLabel) (h : lstep n s l = some s') : s'.lease = s.lease := by
  cases LStep.of_lstep h <;> rfl

theorem step_now_le (n : Nat) (s s' : LSt) (l : LLabel) (h : lstep n s l = some s') : s.now ≤ s'.now := by
  cases LStep.of_lstep h with
  | advance => exact Nat.le_add_right _ _
  | inst => exact Nat.le_refl _

theorem lrun_append (n : Nat) : ∀ (a b : List LLabel) (s : LSt), lrun n s (a ++ b) = (lrun n s a).bind (fun s' => lrun n s' b)
  | [], _, _ => rfl
  | l :: a, b, s => by
    show (lstep n s l).bind _ = ((lstep n s l).bind _).bind _
    cases lstep n s l with
    | none => rfl
    | some s1 => exact lrun_append n a b s1

theorem lrun_induct {n : Nat} {P : LSt → Prop} {ls : List LLabel} {s s' : LSt} (h : lrun n s ls = some s')
    (hstep : ∀ l ∈ ls, ∀ s s', lstep n s l = some s' → P s → P s') (hs : P s) : P s' :=
  run_induct_of (fun _ => rfl) (fun _ _ _ => rfl) h hstep hs

end GoBatcher
