import GoBatcher.Model.LeaseMgr
/-! M-LeaseMgr: the outcome functions on a storage error (the model matches on string literals; on a storage error they
are these `if`s), and the two provisioning runs one blob at a time. -/
namespace GoBatcher

theorem leaseOutcome_storage (index : Nat) (code : String) :
    leaseOutcome index (.storage code) = if code = "LeaseAlreadyPresent" then (0, [.failed index]) else (0, [.error]) := by
  unfold leaseOutcome; split <;> simp_all

theorem provisionOutcome_storage (code : String) :
    provisionOutcome (.storage code) =
      if code = "ContainerAlreadyExists" then (false, [.verifiedContainer]) else (true, []) := by
  unfold provisionOutcome; split <;> simp_all

theorem blobOutcome_storage (code : String) :
    blobOutcome (.storage code) = if code = "BlobAlreadyExists" ∨ code = "LeaseIdMissing" then .verified else .err := by
  unfold blobOutcome; split <;> simp_all

/-- the event one upload raises (in v1 unless it fails: there the run ends without one) -/
def blobEvent (e : SdkErr) (i : Nat) : LmEvent :=
  match blobOutcome e with
  | .created => .createdBlob i
  | .verified => .verifiedBlob i
  | .err => .error

theorem createV2_cons (e : SdkErr) (rest : List SdkErr) (i : Nat) :
    createV2 (e :: rest) i = (blobEvent e i :: (createV2 rest (i + 1)).1, (createV2 rest (i + 1)).2 + 1) := by
  simp only [createV2, blobEvent]
  cases blobOutcome e <;> rfl

/-- v1 goes on as v2 does until the first upload that fails -/
theorem createV1_cons (r : SdkErr) (rest : List SdkErr) (i : Nat) :
    createV1 (r :: rest) i =
      if blobOutcome r = .err then (true, [], 1)
      else ((createV1 rest (i + 1)).1, blobEvent r i :: (createV1 rest (i + 1)).2.1, (createV1 rest (i + 1)).2.2 + 1) := by
  simp only [createV1, blobEvent]
  cases blobOutcome r <;> rfl

end GoBatcher
