import GoBatcher.Lemmas.BatcherInv
/-! Loop-level facts of M-Batcher: which loop states take an action of the loop goroutine, urgency (maximal progress),
and what counters, request flags, phase and loop state say of each other (`LoopOK`); capacity requests against ticks. -/
namespace GoBatcher

/-- the arms of the loop's `select` and the steps of a flush cycle (`wake`, the end of the pause sleep, is not among them) -/
def Label.isLoop : Label → Bool
  | .takeStop | .takePause | .takeAudit | .takeCap | .takeFlushTick | .cycleBegin _ | .cycleStep | .scanEnd
  | .sweepOne _ | .cycleEnd => true
  | _ => false

/-- labels by which the loop releases operations or asks for capacity -/
def Label.isWork : Label → Bool
  | .takeAudit | .takeCap | .takeFlushTick | .cycleBegin _ | .cycleStep | .scanEnd | .sweepOne _ | .cycleEnd => true
  | _ => false

theorem isLoop_running {c : BCfg} {s s' : St} {l : Label} (h : step c s l = some s') (hl : l.isLoop = true) :
    s.loop = .idle ∨ (∃ a acc, s.loop = .cycle a acc) ∨ ∃ acc, s.loop = .sweep acc := by
  induction Step.of_step h with
  | takeStopV1 hs | takeStopV2 hs | takePause hs | takeAudit hs | takeCap hs | takeFlushTick hs | cycleBegin _ hs =>
    exact .inl hs
  | cycleSkip hs | cycleTake hs | cycleRaise hs | scanEnd hs => exact .inr (.inl ⟨_, _, hs⟩)
  | sweepOne hs | cycleEnd hs => exact .inr (.inr ⟨_, hs⟩)
  | _ => cases hl

/-- Urgency: time can pass with an idle loop only when no arm of its `select` is ready — every tick that
fired, every Flush() request, every Pause() and every stop request has been taken first. -/
theorem idle_time_passes_only_when_nothing_ready (s : St) (dt : Nat) (h : canAdvance s dt = true)
    (hl : s.loop = .idle) :
    s.stopReq = false ∧ s.pauseReq = false ∧ s.tickA = false ∧ s.tickC = false ∧ s.tickF = false ∧ s.flushReq = false := by
  have := (canAdvance_spec h).loop
  rw [hl] at this
  simpa [armReady, and_assoc] using this

/-- a sleeping loop is woken exactly at the end of its sleep: time cannot pass beyond it -/
theorem sleep_not_overslept (s : St) (dt u : Nat) (h : canAdvance s dt = true) (hl : s.loop = .sleeping u) :
    s.now + dt ≤ u := by
  have := (canAdvance_spec h).loop
  rw [hl] at this
  exact this

def b2n (b : Bool) : Nat := if b then 1 else 0

structure LoopOK (s : St) : Prop where
  /-- every cycle was asked for by a FlushInterval tick or a Flush() call; requests coalesce in the 1-slot channel -/
  cycles : s.cycles + b2n s.flushReq ≤ s.flushTicksTaken + s.flushCalls
  /-- pause events = effective Pause() calls, less the one still pending -/
  pauses : s.pauses + b2n s.pauseReq = s.effPauseCalls
  /-- a pending pause request means the phase is not `started`, so a further Pause() cannot be effective
  (and cannot extend the pause); nor is one pending before Start -/
  pending : s.pauseReq = true → s.phase ≠ .started ∧ s.phase ≠ .uninit
  /-- a sleeping loop is not past the end of its sleep (behind "exactly PauseTime"), has taken the request, and
  the phase is still not `started` -/
  asleep : ∀ u, s.loop = .sleeping u → s.now ≤ u ∧ s.pauseReq = false ∧ s.phase ≠ .started
  /-- exactly one shutdown event, raised when the loop exits -/
  shutdowns : s.shutdowns = if s.loop = .exited then 1 else 0

/-- `StartOK` is for Start alone: its loop has not exited. -/
theorem step_loopOK (c : BCfg) (s s' : St) (l : Label) (h : step c s l = some s') (hst : StartOK s)
    (hi : LoopOK s) : LoopOK s' := by
  -- a transition of the running loop: nothing has been shut down yet
  have running {x : LoopSt} (hl : s.loop = x) (hx : x ≠ .exited) : s.shutdowns = 0 := by
    rw [hi.shutdowns, hl, if_neg hx]
  induction Step.of_step h with
  | advance ha => exact { hi with asleep := fun u hu => ⟨sleep_not_overslept s _ u ha hu, (hi.asleep u hu).2⟩ }
  | flushCall | takeFlushTick => exact { hi with cycles := by have := hi.cycles; simp only [b2n, ↓reduceIte]; omega }
  | cycleBegin _ hl hr =>
    exact { hi with cycles := by simpa only [b2n, hr, ↓reduceIte, Bool.false_eq_true, Nat.add_zero] using hi.cycles
                    asleep := nofun, shutdowns := running hl nofun }
  | pauseEff hp =>
    -- the call is effective: no request was pending (the phase would not be `started`) and the loop does not sleep
    have hreq : s.pauseReq = false := Bool.eq_false_iff.mpr fun hr => (hi.pending hr).1 hp
    exact { hi with pauses := by have := hi.pauses; rw [hreq] at this; simpa [b2n] using this
                    pending := fun _ => ⟨nofun, nofun⟩, asleep := fun u hu => absurd hp (hi.asleep u hu).2.2 }
  | takePause hl hr =>
    exact { hi with pauses := by have := hi.pauses; rwa [hr] at this
                    pending := nofun
                    asleep := fun u hu => ⟨by cases hu; exact Nat.le_add_right _ _, rfl, (hi.pending hr).1⟩
                    shutdowns := running hl nofun }
  | wake hl =>
    exact { hi with pending := fun hp => absurd hp (by simp [(hi.asleep _ hl).2.1])
                    asleep := nofun, shutdowns := running hl nofun }
  | stopEarlyV1 | stopV1 =>
    exact { hi with pending := fun _ => ⟨nofun, nofun⟩
                    asleep := fun u hu => ⟨(hi.asleep u hu).1, (hi.asleep u hu).2.1, nofun⟩ }
  | takeStopV1 hl => exact { hi with asleep := nofun, shutdowns := by show _ + 1 = 1; rw [running hl nofun] }
  | takeStopV2 hl =>
    exact { hi with pending := fun _ => ⟨nofun, nofun⟩, asleep := nofun
                    shutdowns := by show _ + 1 = 1; rw [running hl nofun] }
  | startCall hp =>
    exact { hi with pending := fun hr => absurd hp (hi.pending hr).2
                    asleep := nofun, shutdowns := running (hst hp) nofun }
  | cycleTake hl | cycleRaise hl | scanEnd hl | sweepOne hl | cycleEnd hl =>
    exact { hi with asleep := nofun, shutdowns := running hl nofun }
  | setCost o k =>
    exact { hi with asleep := fun u hu => hi.asleep u ((doSetCost_loop_iff s o k (x := .sleeping u)).mp hu)
                    shutdowns := by show s.shutdowns = _; rw [hi.shutdowns]; simp only [doSetCost_loop_iff s o k (x := .exited)] }
  | _ => exact { hi with }

theorem reachable_loopOK (c : BCfg) (s : St) (h : Reachable c s) : LoopOK s := by
  obtain ⟨ls, hr⟩ := h
  exact (run_induct (P := fun s => Inv c s ∧ LoopOK s)
    (fun s s' l h hp => ⟨step_inv c s s' l h hp.1, step_loopOK c s s' l h hp.1.start hp.2⟩) ls _ s hr
    ⟨inv_init c, Nat.le_refl _, rfl, nofun, nofun, rfl⟩).2

theorem step_tickC (c : BCfg) (s s' : St) (l : Label) (hs : step c s l = some s') :
    (if l = .takeCap then 1 else 0) + b2n s'.tickC ≤ (if l = .fireC then 1 else 0) + b2n s.tickC := by
  induction Step.of_step hs with
  | takeCap _ ht => rw [ht]; exact Nat.le_refl _
  | fireC => show 0 + 1 ≤ 1 + _; omega
  | _ => exact Nat.le_refl _

/-- capacity requests vs capacity ticks along a run: every request answers a tick, a tick is answered at most once -/
theorem run_requests_le_ticks (c : BCfg) : ∀ (ls : List Label) (s s' : St), run c s ls = some s' →
    ls.count .takeCap + b2n s'.tickC ≤ ls.count .fireC + b2n s.tickC
  | [], s, s', h => by cases h; exact Nat.le_refl _
  | l :: ls, s, s', h => by
    obtain ⟨s₁, hs, hr⟩ := run_cons.mp h
    have := run_requests_le_ticks c ls s₁ s' hr
    have key := step_tickC c s s₁ l hs
    simp only [List.count_cons, beq_iff_eq]
    omega

end GoBatcher
