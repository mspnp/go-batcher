import GoBatcher.Lemmas.BatcherStep
import GoBatcher.Lemmas.Cycle
/-! What the auxiliary functions of M-Batcher do (`raise`, `afterTake`, `signalOne`, `doSetCost`, marking a batch), tables
with distinct keys (`split_at_key`) and the unfinished batches among all, when time may pass (`CanAdvance`), and the cost of
what is outstanding (`outstanding`, C03) with the bookkeeping of the calls inside Enqueue. The invariants are in
`BatcherInv`, `BatcherAcct`, `BatcherLoop`, `BatcherSlots`. -/
namespace GoBatcher

@[simp] theorem raise_now (c : BCfg) (s : St) (p : Batch) : (raise c s p).now = s.now := by
  rw [raise_eq]
@[simp] theorem raise_closed (c : BCfg) (s : St) (p : Batch) : (raise c s p).closed = s.closed := by
  rw [raise_eq]

theorem mem_raise {c : BCfg} {s : St} {p : Batch} {b : RBatch} (h : b ∈ (raise c s p).batches) :
    b ∈ s.batches ∨ b = { id := s.nextBatch, w := p.1, ops := p.2, raisedAt := s.now, deadline := s.now + effMot c p.1,
                          cbDone := false, finished := false } := by
  rcases raise_cases c s p with ⟨_, hr⟩ | hr <;> rw [hr] at h
  · exact .inl h
  · exact (List.mem_append.mp h).imp_right List.eq_of_mem_singleton

@[simp] theorem v1Handoff_shut (s : St) : (v1Handoff s).bm.buf.shut = s.bm.buf.shut := by
  unfold v1Handoff; split <;> rfl

@[simp] theorem afterTake_closed (c : BCfg) (s : St) (i a : Nat) (acc : Acc) (sl : Bool) :
    (afterTake c s i a acc sl).closed = s.closed := by
  rw [afterTake_eq]

theorem signalOne_buf (m : BufM) : (signalOne m).buf = m.buf := by
  unfold signalOne; split <;> rfl
@[simp] theorem signalOne_returned (m : BufM) : (signalOne m).returned = m.returned := by
  unfold signalOne; split <;> rfl

theorem signalOne_blocked (m : BufM) : ((signalOne m).waiting ++ (signalOne m).woken).Perm (m.waiting ++ m.woken) := by
  unfold signalOne
  split
  · exact .refl _
  · rename_i w rest hw
    rw [hw, ← List.append_assoc]
    exact List.perm_middle (l₂ := []) |>.trans (by simp)

theorem signalOne_perm (m : BufM) (p : Nat × Op) :
    p ∈ (signalOne m).waiting ++ (signalOne m).woken ↔ p ∈ m.waiting ++ m.woken :=
  (signalOne_blocked m).mem_iff

theorem removeAt_items (b : Buf) (i : Nat) : (removeAt b i).items = b.items.eraseIdx i := rfl

/-- Taking the cursor operation: it leaves the buffer, and (v2) `Signal()` moves a waiting caller to the woken ones - unless
(v1) a sender is blocked on the full channel: then the oldest one's Enqueue succeeds in the same instant. -/
theorem afterTake_cases (c : BCfg) (s : St) (i a : Nat) (acc : Acc) (sl : Bool) {t : St} (ht : afterTake c s i a acc sl = t) :
    (t.bm.buf.items = s.bm.buf.items.eraseIdx i ∧ t.pend = s.pend ∧ t.inserted = s.inserted ∧
      (t.bm.waiting ++ t.bm.woken).Perm (s.bm.waiting ++ s.bm.woken)) ∨
    ∃ k op, s.bm.waiting = (k, op) :: t.bm.waiting ∧ t.bm.woken = s.bm.woken ∧
      t.bm.buf.items = s.bm.buf.items.eraseIdx i ++ [op] ∧ t.pend = removePend k s.pend ∧ t.inserted = s.inserted ++ [op] := by
  subst ht
  unfold afterTake
  cases c.gen with
  | v2 => exact .inl ⟨congrArg Buf.items (signalOne_buf _), rfl, rfl, signalOne_blocked _⟩
  | v1 =>
    dsimp only [afterTakeV1, v1Handoff]
    split
    · exact .inl ⟨rfl, rfl, rfl, .refl _⟩
    · next k op rest hw => exact .inr ⟨k, op, hw, rfl, rfl, rfl, rfl⟩

theorem shutdownV2_buf (c : BCfg) (s : St) : (shutdownV2 c s).bm.buf = s.bm.buf.shutdown := by
  unfold shutdownV2; cases c.wos <;> rfl

/-- the phase `wake` leaves - `started` again after a pause, any other as it was - is `uninit` only if it was -/
theorem resume_uninit {p : Phase} (h : (if p == .paused then .started else p) = .uninit) : p = .uninit := by
  revert h; cases p <;> decide

/-- `setCost` leaves the loop where it is: outside a cycle the loop state is untouched (`hx`, that `x` is not a state
inside a cycle, is found by itself when `x` is given by its constructor) -/
theorem doSetCost_loop_iff (s : St) (obj cost : Nat) {x : LoopSt}
    (hx : ∀ a acc, x ≠ .cycle a acc ∧ x ≠ .sweep acc := by exact fun _ _ => ⟨nofun, nofun⟩) :
    (doSetCost s obj cost).loop = x ↔ s.loop = x := by
  unfold doSetCost
  cases hl : s.loop with
  | cycle a acc => exact ⟨fun h => absurd h.symm (hx _ _).1, fun h => absurd h.symm (hx _ _).1⟩
  | sweep acc => exact ⟨fun h => absurd h.symm (hx 0 _).2, fun h => absurd h.symm (hx 0 _).2⟩
  | _ => exact .rfl

/-- the batch `finish b` looks up -/
theorem find_batch {l : List RBatch} {b : Nat} {x : RBatch} (h : l.find? (fun y => y.id == b) = some x) :
    x ∈ l ∧ x.id = b :=
  ⟨List.mem_of_find?_eq_some h, by simpa using List.find?_some h⟩

theorem ids_unique (l : List RBatch) (hnd : (l.map (·.id)).Nodup) (x z : RBatch) (hx : x ∈ l) (hz : z ∈ l)
    (he : x.id = z.id) : x = z :=
  have hp := List.pairwise_map.mp hnd
  List.Pairwise.forall_of_forall_of_flip (R := fun a b => a.id = b.id → a = b) (fun _ _ _ => rfl)
    (hp.imp fun h e => absurd e h) (hp.imp fun h e => absurd e.symm h) hx hz he

/-- what `markFinished` does to one batch of the table -/
def markFin (b : Nat) (y : RBatch) : RBatch := if y.id == b then { y with finished := true } else y

theorem markFin_ne {b : Nat} {y : RBatch} (h : y.id ≠ b) : markFin b y = y := by
  unfold markFin; simp [h]

theorem markFin_finished {b : Nat} {y : RBatch} (h : y.id = b) : (markFin b y).finished = true := by
  unfold markFin; simp [h]

theorem markFinished_batches (c : BCfg) (s : St) (b : Nat) (x : RBatch) :
    (markFinished c s b x).batches = s.batches.map (markFin b) := rfl

theorem perm_eraseIdx {α : Type} {l : List α} {i : Nat} {x : α} (h : l[i]? = some x) : l.Perm (x :: l.eraseIdx i) := by
  induction l generalizing i with
  | nil => simp at h
  | cons y t ih =>
    cases i with
    | zero => simp only [List.getElem?_cons_zero, Option.some.injEq] at h; subst h; exact .refl _
    | succ j => exact ((ih (by simpa using h)).cons y).trans (.swap ..)

/-- An entry of a table with distinct keys splits the table, and no other entry has its key: removing or updating
"the entry with key `k`" (a call leaving Enqueue, a batch finishing) touches this one place. -/
theorem split_at_key {α κ : Type} {f : α → κ} {l : List α} {x : α} (hnd : (l.map f).Nodup) (hx : x ∈ l) :
    ∃ l₁ l₂, l = l₁ ++ x :: l₂ ∧ ∀ y ∈ l₁ ++ l₂, f y ≠ f x := by
  obtain ⟨l₁, l₂, rfl⟩ := List.append_of_mem hx
  exact ⟨l₁, l₂, rfl, fun y hy e =>
    (List.nodup_cons.mp ((List.perm_middle.map f).nodup hnd)).1 (e ▸ List.mem_map_of_mem hy)⟩

/-- finishing the batch with id `b` takes exactly that batch out of the unfinished ones -/
theorem unfinished_mark (l : List RBatch) (b : Nat) (x : RBatch) (hnd : (l.map (·.id)).Nodup)
    (hx : x ∈ l) (hid : x.id = b) (hf : x.finished = false) :
    (l.filter (fun y => !y.finished)).Perm (x :: (l.map (markFin b)).filter (fun y => !y.finished)) := by
  obtain ⟨l₁, l₂, rfl, hne⟩ := split_at_key hnd hx
  have same (t : List RBatch) (ht : ∀ y ∈ t, y ∈ l₁ ++ l₂) : t.map (markFin b) = t :=
    (List.map_congr_left fun y hy => markFin_ne (hid ▸ hne y (ht y hy))).trans (List.map_id' t)
  rw [List.map_append, List.map_cons, same l₁ (fun _ => List.mem_append_left _), same l₂ (fun _ => List.mem_append_right _),
    List.filter_append, List.filter_append, List.filter_cons_of_pos (by simp [hf]),
    List.filter_cons_of_neg (by simp [markFin_finished hid])]
  exact List.perm_middle

/-- a change to the batches that keeps their `finished` flags (a returning callback, `setCost`) changes them among the
unfinished ones -/
theorem unfinished_map (l : List RBatch) (g : RBatch → RBatch) (hg : ∀ y, (g y).finished = y.finished) :
    (l.map g).filter (fun y => !y.finished) = (l.filter (fun y => !y.finished)).map g := by
  rw [List.filter_map]
  congr 2
  funext y
  simp only [Function.comp_apply, hg]

/-- `canAdvance s dt`, clause by clause: nothing is runnable and no deadline is passed over -/
structure CanAdvance (s : St) (dt : Nat) : Prop where
  pos : 0 < dt
  /-- the loop is not inside a cycle; idle, it has no arm ready; sleeping, it is not overslept -/
  loop : match s.loop with
    | .cycle _ _ | .sweep _ => False
    | .idle => armReady s = false
    | .sleeping u => s.now + dt ≤ u
    | _ => True
  tickers : tickersRunning s = true → s.now + dt ≤ s.nextF ∧ s.now + dt ≤ s.nextC ∧ s.now + dt ≤ s.nextA
  /-- every unfinished batch is still with its callback and within its time limit -/
  batches : ∀ b ∈ s.batches, b.finished = false → b.cbDone = false ∧ s.now + dt ≤ b.deadline
  woken : s.bm.woken = []

theorem canAdvance_spec {s : St} {dt : Nat} (h : canAdvance s dt = true) : CanAdvance s dt := by
  simp only [canAdvance, Bool.and_eq_true, decide_eq_true_eq, List.all_eq_true, List.isEmpty_iff, Bool.or_eq_true,
    Bool.not_eq_true', unfinished, List.mem_filter, and_imp] at h
  obtain ⟨⟨⟨⟨hp, hl⟩, ht⟩, hb⟩, hw⟩ := h
  refine ⟨hp, ?_, fun hr => and_assoc.mp (ht.resolve_left (by simp [hr])), fun b hb' hf => hb b hb' hf, hw⟩
  cases hs : s.loop with
  | cycle | sweep => simp only [hs, Bool.false_eq_true] at hl
  | idle => simpa only [hs, Bool.not_eq_true'] using hl
  | sleeping u => simpa only [hs, decide_eq_true_eq] using hl
  | _ => trivial

def costPend (l : List (Nat × Op)) : Nat := (l.map (fun p => p.2.cost)).sum
def costOpen (s : St) : Nat :=
  match s.loop with
  | .cycle _ acc => costB acc.openB
  | .sweep acc => costB acc.openB
  | _ => 0
def costUnfinished (l : List RBatch) : Nat := ((l.filter (fun b => !b.finished)).map batchCost).sum

/-- the cost of everything outstanding (C03), plus what a shutdown discarded -/
def outstanding (s : St) : Nat :=
  costL s.bm.buf.items + costPend s.pend + costOpen s + costUnfinished s.batches + costL s.discarded

theorem costOpen_eq (s : St) : costOpen s = costB s.openB := by
  unfold costOpen St.openB; cases s.loop <;> rfl

@[simp] theorem costPend_nil : costPend [] = 0 := rfl
theorem costPend_cons (p : Nat × Op) (l : List (Nat × Op)) : costPend (p :: l) = p.2.cost + costPend l := by
  simp [costPend]
theorem costPend_append (l₁ l₂ : List (Nat × Op)) : costPend (l₁ ++ l₂) = costPend l₁ + costPend l₂ := by
  simp [costPend]

theorem batchCost_eq (b : RBatch) : batchCost b = costL b.ops := rfl

@[simp] theorem costUnfinished_nil : costUnfinished [] = 0 := rfl
theorem costUnfinished_cons (b : RBatch) (l : List RBatch) :
    costUnfinished (b :: l) = (if b.finished then 0 else batchCost b) + costUnfinished l := by
  unfold costUnfinished
  cases hb : b.finished <;> simp [hb]
@[simp] theorem costUnfinished_append (l₁ l₂ : List RBatch) :
    costUnfinished (l₁ ++ l₂) = costUnfinished l₁ + costUnfinished l₂ := by
  simp [costUnfinished, List.filter_append]

theorem costPend_remove (k : Nat) (op : Op) (l : List (Nat × Op)) (hnd : (l.map (·.1)).Nodup)
    (hm : (k, op) ∈ l) : costPend (removePend k l) + op.cost = costPend l := by
  obtain ⟨l₁, l₂, rfl, hne⟩ := split_at_key hnd hm
  have : removePend k (l₁ ++ (k, op) :: l₂) = l₁ ++ l₂ := by
    rw [removePend, List.filter_append, List.filter_cons_of_neg (by simp), ← List.filter_append]
    exact List.filter_eq_self.mpr fun y hy => bne_iff_ne.mpr (hne y hy)
  rw [this, costPend_append, costPend_append, costPend_cons, Nat.add_left_comm, Nat.add_comm]

theorem removePend_keys_sub (k : Nat) (l : List (Nat × Op)) : ∀ q ∈ removePend k l, q ∈ l ∧ q.1 ≠ k := by
  intro q hq
  simp only [removePend, List.mem_filter] at hq
  exact ⟨hq.1, by simpa using hq.2⟩

theorem removePend_nodup (k : Nat) (l : List (Nat × Op)) (h : (l.map (·.1)).Nodup) :
    ((removePend k l).map (·.1)).Nodup := by
  unfold removePend
  exact (List.filter_sublist.map _).nodup h

theorem findPend_mem {k : Nat} {l : List (Nat × Op)} {op : Op} (h : findPend k l = some op) : (k, op) ∈ l := by
  obtain ⟨p, hf, rfl⟩ := Option.map_eq_some_iff.mp h
  have hk : p.1 = k := eq_of_beq (List.find?_some hf :)
  exact hk ▸ List.mem_of_find?_eq_some hf

end GoBatcher
