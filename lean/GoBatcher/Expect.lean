import GoBatcher.Generated.Facts
import GoBatcher.Model.Validate
import GoBatcher.Model.Batcher
/-!
Expectations on the facts regenerated from /repo's sources on every run (`Generated/Facts.lean`).
Each theorem pins a syntactic fact the hand-written model relies on; its name carries the ids of the properties
whose models rely on it, and `bin/check` counts it among those properties' proof obligations. When the source
changes a fact, the theorem no longer checks: the tie between model and code is broken for those properties.
Where strings have to be computed or compared the kernel alone evaluates (`decide +kernel`): doing it in the elaborator
first doubles the work.
-/
namespace GoBatcher.Expect

/-- `Enqueue` runs the four admission checks in the modelled order (both generations) -/
theorem facts_C14_validate_order :
    Facts.v1_validateOrder = validateOrderNames ∧ Facts.v2_validateOrder = validateOrderNames := ⟨rfl, rfl⟩

/-- … with the modelled comparison operators (local names by position: §0 receiver, §1 the operation, §3 the watcher's MaxAttempts) -/
theorem facts_C14_validate_conditions :
    Facts.v1_validateConds = ["§1 == nil", "§1.Watcher() == nil",
      "§0.ratelimiter != nil && §1.Cost() > §0.ratelimiter.MaxCapacity()",
      "§3 > 0 && §1.Attempt() >= §3"] ∧
    Facts.v2_validateConds = Facts.v1_validateConds := ⟨rfl, rfl⟩

/-- the demand is counted before the operation is inserted, with the verification hook in between -/
theorem facts_C03_C19_count_then_hook_then_insert :
    Facts.v1_countBeforeInsert = true ∧ Facts.v2_countBeforeInsert = true ∧
    Facts.v1_hookBetweenCountAndInsert = true ∧ Facts.v2_hookBetweenCountAndInsert = true := ⟨rfl, rfl, rfl, rfl⟩

/-- v2 buffer: `shutdown()` broadcasts and a woken `enqueue` re-checks `isShutdown` (fix of finding F4) -/
theorem facts_C15_C16_shutdown_wakes_waiters : Facts.v2_shutdownWakesWaiters = some true := rfl

/-- C16: the v2 setters the property names refuse (panic) once the Batcher has been started - in EVERY later phase; the
theorems about intervals and times (C02 C11 C12 C13 C19) rely on those values being fixed from Start on -/
theorem facts_C02_C11_C12_C13_C16_C19_setter_guards :
    ∀ x ∈ ["WithRateLimiter", "WithFlushInterval", "WithCapacityInterval", "WithAuditInterval", "WithMaxOperationTime",
           "WithPauseTime", "WithErrorOnFullBuffer"], x ∈ Facts.v2_guardedSetters := by decide +kernel

/-- the defaults `applyDefaults` installs are the model's (nanoseconds), in both generations -/
theorem facts_C02_C11_C12_C13_C19_default_values :
    Facts.v2_defaults = ["§0.flushInterval <= 0|§0.flushInterval|" ++ toString defFlush,
                         "§0.capacityInterval <= 0|§0.capacityInterval|" ++ toString defCap,
                         "§0.auditInterval <= 0|§0.auditInterval|" ++ toString defAudit,
                         "§0.maxOperationTime <= 0|§0.maxOperationTime|" ++ toString defMot,
                         "§0.pauseTime <= 0|§0.pauseTime|" ++ toString defPause] ∧
    Facts.v1_defaults = Facts.v2_defaults := ⟨by decide +kernel, rfl⟩

/-- Enqueue takes the cost back when the buffer refuses the operation (fix of findings F1/F2) -/
theorem facts_C03_C14_C15_C19_rollback :
    Facts.v1_rollbackOnInsertError = true ∧ Facts.v2_rollbackOnInsertError = true := ⟨rfl, rfl⟩

/-- C18: the service codes the model singles out are the SDK's spelling of those conditions -/
theorem facts_C18_sdk_codes :
    "LeaseAlreadyPresent" ∈ Facts.sdk_serviceCodes ∧ "ContainerAlreadyExists" ∈ Facts.sdk_serviceCodes ∧
    "BlobAlreadyExists" ∈ Facts.sdk_serviceCodes ∧ "LeaseIdMissing" ∈ Facts.sdk_serviceCodes ∧
    Facts.sdk_serviceCodes.length ≥ 100 := by decide +kernel

end GoBatcher.Expect
