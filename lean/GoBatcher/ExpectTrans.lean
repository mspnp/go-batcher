import GoBatcher.Generated.Trans
import GoBatcher.Lemmas.TransCore
import GoBatcher.Lemmas.BatcherStep
/-!
Theorems about the definitions that /verif/extract/trans.go TRANSLATES from /repo's Go sources on every run
(`Generated/Trans.lean`): they compute, for all inputs, what the hand-written machines assume of them.
This is the regenerated tie of DESIGN.md (translator): an edit that changes what a translated function computes changes
the definition these theorems are about, and the theorem stops checking. The names carry the ids of the properties
whose models rely on them; `bin/check` counts them among those properties' proof obligations.

A lemma without a property id in its name is no obligation: it ties a translated function to its definition on plain values
in `Lemmas/TransCore.lean` (`v1_incTarget_eq` ...: a changed Go body breaks it first and with it the obligations about that
function) or says once what several obligations need (`admitThen_validate`, `pick_issue_guard` ...). The obligations come by
component: the Batcher, the SharedResource, the listener registry; concrete values at the end. What a parameter of a
translated function stands for in the source (a call taken as an input, a channel as the number of tokens in it, with its
capacity) is set per function in the table of `tspec`s in /verif/extract/trans.go. Where a theorem takes `(n : Nat)` and
`(h : r.field = n)`, it says that the `Int` field holds a natural number (Go's `uint32`) and speaks of that number.
-/
namespace GoBatcher.ExpectTrans
open GoSem GoBatcher.Trans TransCore

/-! ### the translated functions on their fields

Each is the shared definition of `Lemmas/TransCore.lean` applied to the record's fields: by unfolding (`rfl`), or by
`apply_ite` where an `if` stands outside a record. They are stated where several obligations rest on them; a function
with a single one (`calc`, `GiveMe`, `grant`, the admission checks) has it derived from the lemma about the shared
definition, the unfolding left to the type check or to a `simp only` in its proof. -/

theorem v1_incTarget_eq (r : T_v1_Batcher) (val : Int) : v1_incTarget r val = ⟨incTarget r.target val⟩ := by
  simp only [v1_incTarget, incTarget, apply_ite T_v1_Batcher.mk]

theorem v2_incTarget_eq (r : T_v2_batcher) (val : Int) : v2_incTarget r val = ⟨incTarget r.target val⟩ := by
  simp only [v2_incTarget, incTarget, apply_ite T_v2_batcher.mk]

theorem v2_sr_pick_eq (r : T_v2_sharedResource) (k : Int) : v2_sr_pick r k = pick r.partitions k := rfl

theorem v1_sr_pick_eq (r : T_v1_AzureSharedResource) (k : Int) : v1_sr_pick r k = pick r.partitions k := rfl

/-! ### Batcher: the demand counter -/

/-- Enqueue's `incTarget(cost)`: plain addition while the total stays below 2^32 (C03's guard) -/
theorem trans_C03_C14_incTarget_add_v1 (t c : Nat) (h : t + c < 4294967296) :
    v1_incTarget ⟨t⟩ c = ⟨((t + c : Nat) : Int)⟩ :=
  (v1_incTarget_eq ..).trans (congrArg _ (incTarget_add t c h))

theorem trans_C03_C14_incTarget_add_v2 (t c : Nat) (h : t + c < 4294967296) :
    v2_incTarget ⟨t⟩ c = ⟨((t + c : Nat) : Int)⟩ :=
  (v2_incTarget_eq ..).trans (congrArg _ (incTarget_add t c h))

/-- the batch goroutine's `incTarget(-total)`: truncated subtraction (`decTarget`), never below zero -/
theorem trans_C03_C11_incTarget_sub_v1 (t c : Nat) (ht : t < 4294967296) (hc : c < 4294967296) :
    v1_incTarget ⟨t⟩ (-(c : Int)) = ⟨((decTarget t c : Nat) : Int)⟩ :=
  (v1_incTarget_eq ..).trans (congrArg _ (incTarget_sub t c ht hc))

theorem trans_C03_C11_incTarget_sub_v2 (t c : Nat) (ht : t < 4294967296) (hc : c < 4294967296) :
    v2_incTarget ⟨t⟩ (-(c : Int)) = ⟨((decTarget t c : Nat) : Int)⟩ :=
  (v2_incTarget_eq ..).trans (congrArg _ (incTarget_sub t c ht hc))

/-- the audit's reset: reports "was not zero" exactly when the figure was positive, and leaves it at zero -/
theorem trans_C19_trySetTargetToZero_v1 (t : Nat) :
    v1_trySetTargetToZero ⟨t⟩ = (⟨0⟩, decide (t > 0)) := by
  rcases Nat.eq_zero_or_pos t with rfl | h
  · rfl
  · simp [v1_trySetTargetToZero, h]; rfl

theorem trans_C19_confirmTargetIsZero_v2 (t : Nat) :
    v2_confirmTargetIsZero ⟨t⟩ = (⟨0⟩, decide (t = 0)) := by
  rcases Nat.eq_zero_or_pos t with rfl | h
  · rfl
  · simp [v2_confirmTargetIsZero, h, Nat.ne_of_gt h]; rfl

/-! ### Batcher: the admission checks at the head of `Enqueue`, and `applyDefaults`

`v?_enqueueAdmit` is the translation of everything `Enqueue` does BEFORE its first `r.incTarget(...)`; the calls
`op.Watcher()`, `op.Cost()`, `op.Attempt()`, `watcher.MaxAttempts()`, `r.ratelimiter.MaxCapacity()` are its inputs
(user getters are taken to be pure). It returns the name of the error value returned, "" when control reaches
the counting step. -/

def errTag : Option Err → String
  | none => ""
  | some .noOperation => "NoOperationError"
  | some .noWatcher => "NoWatcherError"
  | some .tooExpensive => "TooExpensiveError"
  | some .tooManyAttempts => "TooManyAttemptsError"

/-- the four checks of the source, in its order and with its comparisons, ARE the model's `validate` -/
theorem admitThen_validate {α : Type} (rl op w : Bool) (cost maxCap maxAtt att : Nat) (rej : String → α) (go : α) :
    admitThen rl op w cost maxCap maxAtt att rej go =
      (validate { hasOp := op, hasWatcher := w, limited := rl, maxCap := maxCap, cost := cost,
                  maxAttempts := maxAtt, attempt := att }).elim go (fun e => rej (errTag (some e))) := by
  simp only [admitThen, validate, gt_iff_lt, ge_iff_le, Int.ofNat_lt, Int.ofNat_le, Int.natCast_pos,
    apply_ite (fun o : Option Err => o.elim go (fun e => rej (errTag (some e))))]
  rfl

/-- the real `Enqueue` prefix IS the model's `validate` (C14's theorems are about `validate`), for every input -/
theorem trans_C14_enqueueAdmit_v1 (r : T_v1_Batcher_cfg) (op w : Bool) (cost maxCap maxAtt att : Nat) :
    v1_enqueueAdmit r op w cost maxCap maxAtt att =
      errTag (validate { hasOp := op, hasWatcher := w, limited := r.ratelimiter, maxCap := maxCap, cost := cost,
                         maxAttempts := maxAtt, attempt := att }) :=
  (admitThen_validate r.ratelimiter op w cost maxCap maxAtt att id "").trans (by cases validate _ <;> rfl)

theorem trans_C14_enqueueAdmit_v2 (r : T_v2_batcher_cfg) (op w : Bool) (cost maxCap maxAtt att : Nat) :
    v2_enqueueAdmit r op w cost maxCap maxAtt att =
      errTag (validate { hasOp := op, hasWatcher := w, limited := r.ratelimiter, maxCap := maxCap, cost := cost,
                         maxAttempts := maxAtt, attempt := att }) :=
  (admitThen_validate r.ratelimiter op w cost maxCap maxAtt att id "").trans (by cases validate _ <;> rfl)

/-- nothing is counted for a rejected operation: the prefix ends before the first `incTarget` by construction
(the translator cuts there), and it returns an error exactly when `validate` does -/
theorem trans_C14_admit_passes_iff_v2 (r : T_v2_batcher_cfg) (op w : Bool) (cost maxCap maxAtt att : Nat) :
    v2_enqueueAdmit r op w cost maxCap maxAtt att = "" ↔
      validate { hasOp := op, hasWatcher := w, limited := r.ratelimiter, maxCap := maxCap, cost := cost,
                 maxAttempts := maxAtt, attempt := att } = none := by
  rw [trans_C14_enqueueAdmit_v2]
  cases validate _ with
  | none => simp [errTag]
  | some e => cases e <;> simp [errTag]

/-! An `if` between two records is the record of the `if`s: Go's `if c { r.f = v }` is translated to
`if c then { r with f := v } else r`. With this (and `ite_self`) a sequence of such statements is rewritten field by
field, without a case split per `if`. -/

theorem ite_cfg_v1 (p : Prop) [Decidable p] (x y : T_v1_Batcher_cfg) :
    (if p then x else y) =
      ⟨if p then x.1 else y.1, if p then x.2 else y.2, if p then x.3 else y.3, if p then x.4 else y.4,
       if p then x.5 else y.5, if p then x.6 else y.6⟩ := by
  split <;> rfl

theorem ite_cfg_v2 (p : Prop) [Decidable p] (x y : T_v2_batcher_cfg) :
    (if p then x else y) =
      ⟨if p then x.1 else y.1, if p then x.2 else y.2, if p then x.3 else y.3, if p then x.4 else y.4,
       if p then x.5 else y.5, if p then x.6 else y.6⟩ := by
  split <;> rfl

/-- `applyDefaults` as the machines assume it (`applyDefault`): a non-positive interval becomes the documented
default, a positive one is kept; nothing else in the record changes -/
theorem trans_C02_C11_C12_C13_C19_applyDefaults_v1 (r : T_v1_Batcher_cfg) :
    v1_applyDefaults r =
      { r with flushInterval := applyDefault r.flushInterval defFlush,
               capacityInterval := applyDefault r.capacityInterval defCap,
               auditInterval := applyDefault r.auditInterval defAudit,
               maxOperationTime := applyDefault r.maxOperationTime defMot,
               pauseTime := applyDefault r.pauseTime defPause } := by
  simp only [v1_applyDefaults, ite_cfg_v1, ite_self, applyDefault_cast, defFlush, defCap, defAudit, defMot, defPause,
    decide_eq_true_eq, Int.reduceMul, Int.reduceLE]

theorem trans_C02_C11_C12_C13_C19_applyDefaults_v2 (r : T_v2_batcher_cfg) :
    v2_applyDefaults r =
      { r with flushInterval := applyDefault r.flushInterval defFlush,
               capacityInterval := applyDefault r.capacityInterval defCap,
               auditInterval := applyDefault r.auditInterval defAudit,
               maxOperationTime := applyDefault r.maxOperationTime defMot,
               pauseTime := applyDefault r.pauseTime defPause } := by
  simp only [v2_applyDefaults, ite_cfg_v2, ite_self, applyDefault_cast, defFlush, defCap, defAudit, defMot, defPause,
    decide_eq_true_eq, Int.reduceMul, Int.reduceLE]

/-- after `applyDefaults` every interval the loop hands to `time.NewTicker` / `time.Sleep` is positive
(`NewTicker` panics on a non-positive one) -/
theorem trans_C02_C12_C13_C19_intervals_positive_v2 (r : T_v2_batcher_cfg) :
    0 < (v2_applyDefaults r).flushInterval ∧ 0 < (v2_applyDefaults r).capacityInterval ∧
    0 < (v2_applyDefaults r).auditInterval ∧ 0 < (v2_applyDefaults r).maxOperationTime ∧
    0 < (v2_applyDefaults r).pauseTime := by
  rw [trans_C02_C11_C12_C13_C19_applyDefaults_v2]
  refine ⟨?_, ?_, ?_, ?_, ?_⟩ <;> exact Int.natCast_pos.2 (applyDefault_pos _ _ (by decide))

theorem trans_C02_C12_C13_C19_intervals_positive_v1 (r : T_v1_Batcher_cfg) :
    0 < (v1_applyDefaults r).flushInterval ∧ 0 < (v1_applyDefaults r).capacityInterval ∧
    0 < (v1_applyDefaults r).auditInterval ∧ 0 < (v1_applyDefaults r).maxOperationTime ∧
    0 < (v1_applyDefaults r).pauseTime := by
  rw [trans_C02_C11_C12_C13_C19_applyDefaults_v1]
  refine ⟨?_, ?_, ?_, ?_, ?_⟩ <;> exact Int.natCast_pos.2 (applyDefault_pos _ _ (by decide))

/-! ### the library's own Operation: what the admission prefix reads, and what a delivery does to it -/

/-- `MakeAttempt()` adds exactly one to what `Attempt()` reports (below 2^32) and changes neither the cost nor the
batchable flag: the getters the admission prefix reads are pure, and an attempt is counted per delivery (C14's
`only_delivery_counts` is about that counter) -/
theorem trans_C14_MakeAttempt_v2 (o : T_v2_operation) (h0 : 0 ≤ o.attempt) (h : o.attempt + 1 < 4294967296) :
    v2_op_Attempt (v2_op_MakeAttempt o) = v2_op_Attempt o + 1 ∧
    v2_op_Cost (v2_op_MakeAttempt o) = v2_op_Cost o ∧ v2_op_IsBatchable (v2_op_MakeAttempt o) = v2_op_IsBatchable o :=
  ⟨u32_of_range (by omega) h, rfl, rfl⟩

theorem trans_C14_MakeAttempt_v1 (o : T_v1_Operation) (h0 : 0 ≤ o.attempt) (h : o.attempt + 1 < 4294967296) :
    v1_op_Attempt (v1_op_MakeAttempt o) = v1_op_Attempt o + 1 ∧
    v1_op_Cost (v1_op_MakeAttempt o) = v1_op_Cost o ∧ v1_op_IsBatchable (v1_op_MakeAttempt o) = v1_op_IsBatchable o :=
  ⟨u32_of_range (by omega) h, rfl, rfl⟩

/-- with the library's Operation, `MaxAttempts` deliveries make the next `Enqueue` fail: after `n` calls of
`MakeAttempt` on a fresh operation `Attempt() = n`, and the admission prefix refuses it iff `n ≥ MaxAttempts > 0` -/
theorem trans_C14_attempts_after_deliveries_v2 (o : T_v2_operation) (n : Nat) (h0 : o.attempt = 0) (hn : n < 4294967296) :
    v2_op_Attempt (Nat.repeat v2_op_MakeAttempt n o) = n := by
  induction n with
  | zero => exact h0
  | succ k ih =>
    have hk : (Nat.repeat v2_op_MakeAttempt k o).attempt = k := ih (by omega)
    rw [Nat.repeat, (trans_C14_MakeAttempt_v2 _ (by omega) (by omega)).1]
    exact congrArg (· + 1) hk

/-! ### Batcher: the tail of `Enqueue` (count, insert, roll back) -/

/-- v2 `Enqueue` after the admission checks, with the buffer's answer as an input: an operation the buffer refuses
(full in error mode, shut down) leaves `NeedsCapacity()` exactly as it was and its error is returned; an accepted one
adds exactly its cost (no wrap while the total stays below 2^32) - the repaired findings F1 / F2, now for every
demand, cost and error value -/
theorem trans_C03_C15_C19_enqueueTail_v2 (t c : Nat) (e : String) (h : t + c < 4294967296) :
    v2_enqueueTail ⟨t⟩ c e = (if e = "" then (⟨((t + c : Nat) : Int)⟩, "") else (⟨(t : Int)⟩, e)) := by
  simp only [v2_enqueueTail, v2_incTarget_eq, incTarget_add t c h, incTarget_add_sub t c h, bne_iff_ne, ne_eq, ite_not]

/-- v1 `Enqueue` after the admission checks: in error mode a full buffer (the channel holds `bufCap` operations)
refuses the operation with `BufferFullError`, leaves `NeedsCapacity()` exactly as it was and puts nothing into the
buffer; otherwise the operation is in the buffer and the demand has grown by exactly its cost (the repaired finding
F1). In blocking mode the send is a plain channel send (it blocks while the buffer is full). -/
theorem trans_C03_C15_C19_enqueueTail_v1 (t c held bufCap : Nat) (eof : Bool) (h : t + c < 4294967296) :
    v1_enqueueTail { buffer := held, target := t } c eof bufCap =
      (if eof = true ∧ ¬ held < bufCap then ({ buffer := held, target := t }, "BufferFullError")
       else ({ buffer := (held + 1 : Nat), target := ((t + c : Nat) : Int) }, "")) := by
  simp only [v1_enqueueTail, v1_incTarget_eq, incTarget_add t c h, incTarget_add_sub t c h, Int.ofNat_lt, decide_eq_true_eq]
  cases eof <;> by_cases hb : held < bufCap <;> simp [hb]

/-! ### the whole of `Enqueue` -/

/-- v2 `Enqueue`, translated from its first to its last statement (the interface getters and the buffer's answer are
inputs): a rejected operation - by one of the four admission checks, in the model's order - changes nothing and gets
exactly that error; an admitted one the buffer refuses changes nothing either and gets the buffer's error; an
accepted one adds exactly its cost to the demand (C03, C14, C15, for every operation, limiter and demand) -/
theorem trans_C03_C14_C15_Enqueue_v2 (rl op w : Bool) (t cost maxCap maxAtt att : Nat) (e : String)
    (h : t + cost < 4294967296) :
    v2_Enqueue { ratelimiter := rl, target := t } op w cost maxCap maxAtt att e =
      (match validate { hasOp := op, hasWatcher := w, limited := rl, maxCap := maxCap, cost := cost,
                        maxAttempts := maxAtt, attempt := att } with
       | some err => ({ ratelimiter := rl, target := t }, errTag (some err))
       | none => if e = "" then ({ ratelimiter := rl, target := ((t + cost : Nat) : Int) }, "")
                 else ({ ratelimiter := rl, target := t }, e)) := by
  change admitThen rl op w cost maxCap maxAtt att (fun e => (_, e)) _ = _
  rw [admitThen_validate]
  cases validate _ with
  | some e => rfl
  | none =>
    simp only [Option.elim, v2_incTarget_eq, incTarget_add t cost h, incTarget_add_sub t cost h, bne_iff_ne, ne_eq, ite_not]

/-- v1 `Enqueue`, whole: the same, with the buffer a channel of `bufCap` places (`held` taken): in error mode a full
buffer refuses with `BufferFullError` and changes nothing; in blocking mode the send is taken to succeed (it blocks
while the buffer is full) -/
theorem trans_C03_C14_C15_Enqueue_v1 (rl op w eof : Bool) (t held bufCap cost maxCap maxAtt att : Nat)
    (h : t + cost < 4294967296) :
    v1_Enqueue { ratelimiter := rl, buffer := held, target := t } op w cost maxCap maxAtt att eof bufCap =
      (match validate { hasOp := op, hasWatcher := w, limited := rl, maxCap := maxCap, cost := cost,
                        maxAttempts := maxAtt, attempt := att } with
       | some err => ({ ratelimiter := rl, buffer := held, target := t }, errTag (some err))
       | none => if eof = true ∧ ¬ held < bufCap then ({ ratelimiter := rl, buffer := held, target := t }, "BufferFullError")
                 else ({ ratelimiter := rl, buffer := (held + 1 : Nat), target := ((t + cost : Nat) : Int) }, "")) := by
  change admitThen rl op w cost maxCap maxAtt att (fun e => (_, e)) _ = _
  rw [admitThen_validate]
  cases validate _ with
  | some e => rfl
  | none =>
    simp only [Option.elim, v1_incTarget_eq, incTarget_add t cost h, incTarget_add_sub t cost h, Int.ofNat_lt, decide_eq_true_eq]
    cases eof <;> by_cases hb : held < bufCap <;> simp [hb]

/-! ### Batcher: the audit arm of the loop and the choice of a batch's MaxOperationTime

Translated from deep inside `Start` / `processBatch` (a `select` arm, a goroutine closure). Inputs: the buffer size
read by the arm, the time since the last flush with records, the Batcher's MaxOperationTime, v2's drain of the slot
channel (`confirmInflightIsZero`, a channel operation) and the watcher's MaxOperationTime. The event raised is
returned as "<event constant>|<message constant>". -/

/-- the name of the event (and message) each audit outcome of the model stands for -/
def auditEv : AuditOutcome → String
  | .pass => "AuditPassEvent|"
  | .skip => "AuditSkipEvent|"
  | .failTarget => "AuditFailEvent|AuditMsgFailureOnTarget"
  | .failInflight => "AuditFailEvent|AuditMsgFailureOnInflight"
  | .failBoth => "AuditFailEvent|AuditMsgFailureOnTargetAndInflight"

/-- the model's audit, as a function of what the arm reads (cf. `auditCond`, `auditOutcome`, `doAudit`) -/
def auditSpecV2 (target bufSize sinceLast mot : Nat) (slotsHeld : Bool) : Nat × AuditOutcome :=
  if bufSize = 0 ∧ sinceLast > mot then
    (0, if target > 0 ∧ slotsHeld then .failBoth else if target > 0 then .failTarget else if slotsHeld then .failInflight else .pass)
  else (target, .skip)

/-- v2: the audit arm zeroes the demand and names the failure exactly as the machine's `doAudit` / `auditOutcome`
do, for every demand, buffer size, idle time, MaxOperationTime and slot state -/
theorem trans_C03_C10_C19_auditArm_v2 (target bufSize sinceLast mot : Nat) (inflightIsZero : Bool) :
    v2_auditArm ⟨target⟩ bufSize sinceLast mot inflightIsZero =
      (⟨((auditSpecV2 target bufSize sinceLast mot (!inflightIsZero)).1 : Nat)⟩,
       auditEv (auditSpecV2 target bufSize sinceLast mot (!inflightIsZero)).2) := by
  simp only [v2_auditArm, trans_C19_confirmTargetIsZero_v2, auditSpecV2, Int.natCast_eq_zero, Int.ofNat_lt, gt_iff_lt,
    Bool.and_eq_true, decide_eq_true_eq]
  by_cases h : bufSize = 0 ∧ mot < sinceLast
  · rw [if_pos h, if_pos h]
    cases inflightIsZero <;> by_cases ht : target = 0 <;> simp [ht, auditEv, Nat.pos_iff_ne_zero]
  · simp only [if_neg h]; rfl

/-- v1: the same with `trySetTargetToZero` and one kind of failure -/
theorem trans_C03_C19_auditArm_v1 (target bufLen sinceLast mot : Nat) :
    v1_auditArm ⟨target⟩ bufLen sinceLast mot =
      (if bufLen = 0 ∧ sinceLast > mot then (⟨0⟩, if target > 0 then "AuditFailEvent|text" else "AuditPassEvent|")
       else (⟨(target : Int)⟩, "AuditSkipEvent|")) := by
  simp only [v1_auditArm, trans_C19_trySetTargetToZero_v1, natCast_lt_ofNat, Nat.lt_one_iff, Int.ofNat_lt, gt_iff_lt,
    Bool.and_eq_true, decide_eq_true_eq]
  split <;> rfl

/-- the spec above IS the machine's audit: condition, outcome and what `doAudit` leaves in the demand -/
theorem trans_C03_C10_C19_auditSpec_is_doAudit (c : BCfg) (s : St) (hg : c.gen = .v2) :
    let sinceLast := match s.lastFlush with | none => c.mot + 1 | some t => s.now - t
    auditSpecV2 s.target s.bm.buf.items.length sinceLast c.mot (decide (s.slots > 0)) =
      ((doAudit c s).target, auditOutcome c s) := by
  intro sinceLast
  have hc : (s.bm.buf.items.length = 0 ∧ sinceLast > c.mot) ↔ auditCond c s = true := by
    unfold auditCond; cases hl : s.lastFlush <;> cases s.bm.buf.items <;> simp [sinceLast, hl]
  simp only [auditSpecV2, doAudit, auditOutcome, hg, hc]
  cases auditCond c s <;> simp

/-- a batch's time limit: the watcher's MaxOperationTime if it is set, else the Batcher's (`effMot`, C11) -/
theorem trans_C11_effMot_v2 (r : T_v2_batcher) (mot wMot : Nat) :
    v2_effMot r mot wMot = (if wMot > 0 then wMot else mot : Nat) := by
  by_cases h : wMot > 0 <;> simp [v2_effMot, h]

theorem trans_C11_effMot_v1 (r : T_v1_Batcher) (mot wMot : Nat) :
    v1_effMot r mot wMot = (if wMot > 0 then wMot else mot : Nat) := by
  by_cases h : wMot > 0 <;> simp [v1_effMot, h]

theorem trans_C11_effMot_is_model (c : BCfg) (w : Nat) (r : T_v2_batcher) :
    v2_effMot r c.mot (c.wMot w) = (effMot c w : Nat) := by
  rw [trans_C11_effMot_v2]; simp [effMot]

/-! ### Batcher: the capacity arm of the loop -/

/-- every CapacityInterval tick with a rate limiter attached calls `GiveMe` with the demand as it is at that moment
(`NeedsCapacity()`), and without a limiter calls nothing -/
theorem trans_C12_capacityArm_v2 (target : Nat) (limited emitRequest : Bool) :
    v2_capacityArm ⟨target⟩ limited emitRequest = (limited, if limited then (target : Int) else 0) := by
  cases limited <;> rfl

theorem trans_C12_capacityArm_v1 (target : Nat) (limited : Bool) :
    v1_capacityArm ⟨target⟩ limited = (limited, if limited then (target : Int) else 0) := by
  cases limited <;> rfl

/-- ... which is the machine's `takeCap` label: the request it records is the one the translated arm makes -/
theorem trans_C12_capacityArm_is_takeCap (c : BCfg) (s s' : St) (e : Bool) (h : step c s .takeCap = some s') :
    s'.giveMes = s.giveMes ++
      (if (v2_capacityArm ⟨s.target⟩ c.limited e).1 then [(s.now, (v2_capacityArm ⟨s.target⟩ c.limited e).2.toNat)] else []) := by
  rw [trans_C12_capacityArm_v2]
  cases Step.of_step h with
  | takeCap => cases c.limited <;> simp

/-! ### Batcher: the pause arm of the loop -/

/-- taking a pause request: the loop sleeps EXACTLY PauseTime (one `time.Sleep(r.pauseTime)`, nothing else that takes
time), then `resume()` puts the phase back to started only if it is still paused - a Stop() that arrived during the
pause (phase stopped = 3) is not undone (C16) -/
theorem trans_C13_C16_pauseArm_v2 (ph pauseTime : Int) :
    v2_pauseArm ⟨ph⟩ pauseTime = (⟨if ph = 2 then 1 else ph⟩, true, pauseTime) := by
  by_cases h : ph = 2 <;> simp [v2_pauseArm, v2_resume, h]

theorem trans_C13_C16_pauseArm_v1 (ph pauseTime : Int) :
    v1_pauseArm ⟨ph⟩ pauseTime = (⟨if ph = 2 then 1 else ph⟩, true, pauseTime) := by
  by_cases h : ph = 2 <;> simp [v1_pauseArm, v1_resume, h]

/-! ### Batcher v2: the concurrency slots

`r.inflight` is a `chan struct{}` of capacity MaxConcurrentBatches; the translator reads it as the number of tokens in
it (a non-blocking send succeeds iff it is below its capacity, a receive takes one token, the audit's drain loop
empties it). -/

/-- `tryReserveBatchSlot()` is the machine's `slotFree` / `slotsAfter`: always true without a limit; with a limit it
takes a slot iff fewer than the limit are taken -/
theorem trans_C10_tryReserveBatchSlot_is_model (c : BCfg) (s : St) :
    v2_tryReserveBatchSlot ⟨c.mcb, s.slots⟩ = (⟨c.mcb, (slotsAfter c s (slotFree c s) : Nat)⟩, slotFree c s) := by
  by_cases h0 : c.mcb = 0
  · simp [v2_tryReserveBatchSlot, slotFree, slotsAfter, h0]
  · by_cases h1 : s.slots < c.mcb <;> simp [v2_tryReserveBatchSlot, slotFree, slotsAfter, h0, h1]

/-- never more tokens than the limit: reserving keeps `inflight ≤ MaxConcurrentBatches` -/
theorem trans_C10_reserve_keeps_bound (mcb slots : Nat) (h : slots ≤ mcb) :
    (v2_tryReserveBatchSlot ⟨mcb, slots⟩).1.inflight ≤ mcb := by
  fun_cases v2_tryReserveBatchSlot ⟨mcb, slots⟩
  · exact Int.ofNat_le.2 h
  · rename_i h1 _; exact of_decide_eq_true h1  -- `slots < mcb` on integers is `slots + 1 ≤ mcb`
  · exact Int.ofNat_le.2 h

/-- `releaseBatchSlot()` (at the write-off of a batch, C11) gives back exactly one slot when a limit is set -/
theorem trans_C10_C11_releaseBatchSlot_v2 (mcb slots : Nat) :
    v2_releaseBatchSlot ⟨mcb, slots⟩ = ⟨mcb, ((if mcb ≠ 0 then slots - 1 else slots : Nat) : Int)⟩ := by
  rcases Nat.eq_zero_or_pos mcb with rfl | h0
  · rfl
  · simp [v2_releaseBatchSlot, h0, Nat.ne_of_gt h0]; omega

/-- the audit's drain: afterwards no slot is taken, and it reports whether one was (the machine's `doAudit`:
`slots := 0`, outcome `failInflight` / `failBoth` iff `slots > 0`) -/
theorem trans_C10_C19_confirmInflightIsZero_v2 (mcb slots : Nat) :
    v2_confirmInflightIsZero ⟨mcb, slots⟩ = (⟨mcb, 0⟩, decide (slots = 0)) := by
  rcases Nat.eq_zero_or_pos slots with rfl | hs
  · rfl
  · simp [v2_confirmInflightIsZero, hs, Nat.ne_of_gt hs]

/-- `Inflight()` reports the number of slots taken -/
theorem trans_C10_Inflight_v2 (mcb slots : Nat) (h : slots < 4294967296) : v2_Inflight ⟨mcb, slots⟩ = slots :=
  u32_natCast h

/-! ### Batcher v2: what finishing a batch does (the tail of `processBatch`'s goroutine) -/

theorem foldl_add_eq_sum (l : List Nat) (z : Int) :
    (l.map (fun (n : Nat) => (n : Int))).foldl (fun total (x : Int) => total + x) z = z + ((l.sum : Nat) : Int) := by
  induction l generalizing z with
  | nil => simp
  | cons a rest ih => simp only [List.map_cons, List.foldl_cons, List.sum_cons]; rw [ih]; omega

/-- when a batch is done - its callback returned or its time limit passed - the demand drops by exactly the cost of
its operations (never below zero) and exactly one slot is given back when a limit is set: the machine's `finish`
label (`decTarget`, `slots - 1`), for every batch, demand and slot state -/
theorem trans_C03_C10_C11_finishTail_v2 (t mcb slots : Nat) (costs : List Nat) (ht : t < 4294967296)
    (hc : costs.sum < 4294967296) (hs : 0 < slots) :
    v2_finishTail { maxConcurrentBatches := mcb, inflight := slots, target := t } (costs.map (fun (n : Nat) => (n : Int))) =
      ({ maxConcurrentBatches := mcb, inflight := ((if mcb ≠ 0 then slots - 1 else slots : Nat) : Int),
         target := ((decTarget t costs.sum : Nat) : Int) }, (costs.sum : Int)) := by
  simp only [v2_finishTail, foldl_add_eq_sum costs 0, Int.zero_add, trans_C03_C11_incTarget_sub_v2 t _ ht hc,
    trans_C10_C11_releaseBatchSlot_v2]

/-- v1: the same without slots -/
theorem trans_C03_C11_finishTail_v1 (t : Nat) (costs : List Nat) (ht : t < 4294967296) (hc : costs.sum < 4294967296) :
    v1_finishTail ⟨t⟩ (costs.map (fun (n : Nat) => (n : Int))) = (⟨((decTarget t costs.sum : Nat) : Int)⟩, (costs.sum : Int)) := by
  simp only [v1_finishTail, foldl_add_eq_sum costs 0, Int.zero_add, trans_C03_C11_incTarget_sub_v1 t _ ht hc]

/-! ### Batcher: `Pause()` -/

/-- `Pause()` has an effect exactly when the Batcher is started (phase 1): it leaves one pause request for the loop
(never more than one: the channel holds a single token) and the phase paused, so that a second `Pause()` - made before
the loop has even taken the request, or during the pause - changes nothing; before Start, while paused and after
shutdown it is ignored (the machine's `pauseCall`) -/
theorem trans_C13_Pause_v2 (ph tok : Nat) (h : tok ≤ 1) :
    v2_Pause { phase := ph, pause := tok } = (if ph = 1 then { phase := 2, pause := 1 } else { phase := ph, pause := tok }) := by
  by_cases h1 : ph = 1 <;> rcases Nat.le_one_iff_eq_zero_or_eq_one.1 h with rfl | rfl <;>
    simp [v2_Pause, natCast_eq_ofNat, h1]

theorem trans_C13_Pause_v1 (ph tok : Nat) (h : tok ≤ 1) :
    v1_Pause { phase := ph, pause := tok } = (if ph = 1 then { phase := 2, pause := 1 } else { phase := ph, pause := tok }) := by
  by_cases h1 : ph = 1 <;> rcases Nat.le_one_iff_eq_zero_or_eq_one.1 h with rfl | rfl <;>
    simp [v1_Pause, natCast_eq_ofNat, h1]

/-- two `Pause()` calls in a row are one -/
theorem trans_C13_Pause_idempotent_v2 (ph tok : Nat) (h : tok ≤ 1) :
    v2_Pause (v2_Pause { phase := ph, pause := tok }) = v2_Pause { phase := ph, pause := tok } := by
  rw [trans_C13_Pause_v2 ph tok h]
  split
  · exact trans_C13_Pause_v2 2 1 (Nat.le_refl 1)
  · rw [trans_C13_Pause_v2 ph tok h, if_neg ‹_›]

/-! ### Batcher: `Flush()` -/

/-- `Flush()` (also what every FlushInterval tick calls) leaves exactly one cycle request for the loop: requests
made while one is pending - during a cycle, a pause, before Start - coalesce (the machine's `flushReq := true`) -/
theorem trans_C02_C08_Flush_v2 (tok : Nat) (h : tok ≤ 1) : v2_Flush ⟨tok⟩ = ⟨1⟩ := by
  rcases Nat.le_one_iff_eq_zero_or_eq_one.1 h with rfl | rfl <;> rfl

theorem trans_C02_C08_Flush_v1 (tok : Nat) (h : tok ≤ 1) : v1_Flush ⟨tok⟩ = ⟨1⟩ := by
  rcases Nat.le_one_iff_eq_zero_or_eq_one.1 h with rfl | rfl <;> rfl

theorem trans_C02_C08_Flush_is_flushCall (c : BCfg) (s s' : St) (h : step c s .flushCall = some s') :
    v2_Flush ⟨if s.flushReq then 1 else 0⟩ = ⟨if s'.flushReq then 1 else 0⟩ := by
  cases Step.of_step h with
  | flushCall => cases s.flushReq <;> rfl

/-! ### Batcher lifecycle: the head of `Start`, v1's `Stop` -/

/-- `Start` goes on to create its tickers and its loop only from the uninitialised phase (v1: and with a buffer); any
later call is refused with the improper-order error and changes nothing (C16: starts exactly once); on the way the
defaults are applied -/
theorem trans_C16_startHead_v2 (r : T_v2_batcher_cfg) (phase : Nat) :
    v2_startHead r phase = (if phase = 0 then (v2_applyDefaults r, "") else (r, "ImproperOrderError")) := by
  by_cases h : phase = 0 <;> simp [v2_startHead, h]

theorem trans_C16_startHead_v1 (r : T_v1_Batcher_cfg) (phase : Nat) (noBuffer : Bool) :
    v1_startHead r phase noBuffer =
      (if phase ≠ 0 then (r, "BatcherImproperOrderError") else if noBuffer then (r, "BufferNotAllocated")
       else (v1_applyDefaults r, "")) := by
  by_cases h : phase = 0 <;> cases noBuffer <;> simp [v1_startHead, h]

/-- v1 `Stop()`: on a stopped Batcher it does nothing at all - in particular it does not close the stop channel a
second time (a close of a closed channel panics); otherwise it closes it once, marks the Batcher stopped and waits for
the loop -/
theorem trans_C16_C20_Stop_v1 (phase : Nat) (hasStop : Bool) :
    v1_Stop ⟨phase⟩ hasStop = (if phase = 3 then (⟨3⟩, false, false) else (⟨3⟩, hasStop, true)) := by
  by_cases h : phase = 3 <;> cases hasStop <;> simp [v1_Stop, natCast_eq_ofNat, h]

/-- Stop after Stop changes nothing and closes nothing -/
theorem trans_C16_C20_Stop_twice_v1 (phase : Nat) (hasStop : Bool) :
    v1_Stop (v1_Stop ⟨phase⟩ hasStop).1 hasStop = (⟨3⟩, false, false) := by
  rw [trans_C16_C20_Stop_v1, apply_ite Prod.fst, ite_self]; exact trans_C16_C20_Stop_v1 3 hasStop

/-- v2 `shutdown()` (run by the loop when the context is cancelled): the buffer is shut down (its waiters are released:
`trans_C15_shutdown`, `BufM`), the phase becomes stopped, one shutdown event is raised - whatever the phase was -/
theorem trans_C15_C16_shutdown_v2 (ph : Int) : v2_shutdown ⟨ph⟩ = (⟨3⟩, true, "ShutdownEvent|") := rfl

/-! ### Batcher v2: the configuration setters C16 names -/

/-- after `Start` (any phase but uninitialised: started, paused, stopped) every one of the seven setters panics and
changes nothing - it never silently takes effect -/
theorem trans_C16_setters_panic_after_start_v2 (r : T_v2_batcher_set) (h : r.phase ≠ 0) (rl : Bool) (v : Int) :
    v2_WithRateLimiter r rl = (r, false, true) ∧ v2_WithFlushInterval r v = (r, false, true) ∧
    v2_WithCapacityInterval r v = (r, false, true) ∧ v2_WithAuditInterval r v = (r, false, true) ∧
    v2_WithMaxOperationTime r v = (r, false, true) ∧ v2_WithPauseTime r v = (r, false, true) ∧
    v2_WithErrorOnFullBuffer r = (r, false, true) := by
  simp [v2_WithRateLimiter, v2_WithFlushInterval, v2_WithCapacityInterval, v2_WithAuditInterval,
    v2_WithMaxOperationTime, v2_WithPauseTime, v2_WithErrorOnFullBuffer, h]

/-- before `Start` they set their value and nothing else, without a panic -/
theorem trans_C16_setters_before_start_v2 (r : T_v2_batcher_set) (h : r.phase = 0) (rl : Bool) (v : Int) :
    v2_WithRateLimiter r rl = ({ r with ratelimiter := rl }, true, false) ∧
    v2_WithFlushInterval r v = ({ r with flushInterval := v }, true, false) ∧
    v2_WithCapacityInterval r v = ({ r with capacityInterval := v }, true, false) ∧
    v2_WithAuditInterval r v = ({ r with auditInterval := v }, true, false) ∧
    v2_WithMaxOperationTime r v = ({ r with maxOperationTime := v }, true, false) ∧
    v2_WithPauseTime r v = ({ r with pauseTime := v }, true, false) ∧
    v2_WithErrorOnFullBuffer r = ({ r with errorOnFullBuffer := true }, true, false) := by
  simp [v2_WithRateLimiter, v2_WithFlushInterval, v2_WithCapacityInterval, v2_WithAuditInterval,
    v2_WithMaxOperationTime, v2_WithPauseTime, v2_WithErrorOnFullBuffer, h]

/-! ### the translated functions as steps of the Batcher machine

The phase constants of the source (`iota`: uninitialised 0, started 1, paused 2, stopped 3) against the machine's
`Phase`; the one-token pause channel against `pauseReq`. -/

def phaseNum : Phase → Nat
  | .uninit => 0 | .started => 1 | .paused => 2 | .stopped => 3

/-- the translated `Pause()` IS the machine's `pauseCall` label -/
theorem trans_C13_Pause_is_pauseCall (c : BCfg) (s s' : St) (h : step c s .pauseCall = some s') :
    v2_Pause { phase := phaseNum s.phase, pause := if s.pauseReq then 1 else 0 } =
      { phase := phaseNum s'.phase, pause := if s'.pauseReq then 1 else 0 } := by
  cases Step.of_step h with
  | pauseEff hp => cases s.pauseReq <;> simp [hp] <;> rfl
  | pauseNoop hp => cases hp' : s.phase <;> cases s.pauseReq <;> simp_all <;> rfl

/-- the translated `resume()` (end of the pause arm) IS what the machine's `wake` label does to the phase -/
theorem trans_C13_C16_resume_is_wake (c : BCfg) (s s' : St) (h : step c s .wake = some s') :
    v2_resume ⟨phaseNum s.phase⟩ = ⟨phaseNum s'.phase⟩ := by
  cases Step.of_step h with
  | wake => cases hp : s.phase <;> rfl

/-- the machine's `startCall` is enabled exactly when the translated head of `Start` goes on (returns no error) -/
theorem trans_C16_startHead_is_startCall (c : BCfg) (s : St) (r : T_v2_batcher_cfg) :
    (step c s .startCall).isSome ↔ (v2_startHead r (phaseNum s.phase)).2 = "" := by
  rw [trans_C16_startHead_v2, step_startCall_isSome]
  cases s.phase <;> simp [phaseNum]

/-! ### SharedResource: capacity figures -/

/-- number of non-nil slots of a partition list (the partitions the instance counts) -/
def heldCount (l : List Bool) : Nat := l.count true

/-- `calc()` publishes factor x (number of non-nil partitions) and touches nothing else (no uint32 overflow) -/
theorem trans_C04_C06_calc_v2 (r : T_v2_sharedResource) (hf : 0 ≤ r.factor) (hl : r.partitions.length < 4294967296)
    (h : r.factor * heldCount r.partitions < 4294967296) :
    v2_sr_calc r = { r with capacity := r.factor * heldCount r.partitions } :=
  congrArg (fun c => { r with capacity := c }) (calc_capacity _ _ hf hl h)

theorem trans_C04_C06_calc_v1 (r : T_v1_AzureSharedResource) (hf : 0 ≤ r.factor) (hl : r.partitions.length < 4294967296)
    (h : r.factor * heldCount r.partitions < 4294967296) :
    v1_sr_calc r = ({ r with capacity := r.factor * heldCount r.partitions }, r.factor * heldCount r.partitions) :=
  congrArg (fun c => ({ r with capacity := c }, c)) (calc_capacity _ _ hf hl h)

/-- `Capacity()` = published partition capacity + reserved capacity -/
theorem trans_C06_Capacity_v2 (r : T_v2_sharedResource) (h0 : 0 ≤ r.capacity) (h1 : 0 ≤ r.reservedCapacity)
    (h : r.capacity + r.reservedCapacity < 4294967296) : v2_sr_Capacity r = r.capacity + r.reservedCapacity :=
  u32_of_range (Int.add_nonneg h0 h1) h

theorem trans_C06_Capacity_v1 (r : T_v1_AzureSharedResource) (h0 : 0 ≤ r.capacity) (h1 : 0 ≤ r.reservedCapacity)
    (h : r.capacity + r.reservedCapacity < 4294967296) : v1_sr_Capacity r = r.capacity + r.reservedCapacity :=
  u32_of_range (Int.add_nonneg h0 h1) h

/-- so after `calc()`: `Capacity() = reserved + factor x counted partitions` — the model's `LInst.capacity` -/
theorem trans_C06_Capacity_after_calc_v2 (r : T_v2_sharedResource) (hf : 0 ≤ r.factor) (h1 : 0 ≤ r.reservedCapacity)
    (hl : r.partitions.length < 4294967296)
    (h : r.reservedCapacity + r.factor * heldCount r.partitions < 4294967296) :
    v2_sr_Capacity (v2_sr_calc r) = r.reservedCapacity + r.factor * heldCount r.partitions := by
  have hnn : (0 : Int) ≤ r.factor * ↑(heldCount r.partitions) := Int.mul_nonneg hf (Int.natCast_nonneg _)
  rw [trans_C04_C06_calc_v2 r hf hl (by omega)]
  exact (trans_C06_Capacity_v2 { r with capacity := r.factor * heldCount r.partitions } hnn h1
    (by rw [Int.add_comm]; exact h)).trans (Int.add_comm ..)

/-- `MaxCapacity()`: v1 shared + reserved; v2 caps the shared part at 500 x factor -/
theorem trans_C06_MaxCapacity_v1 (r : T_v1_AzureSharedResource) (h0 : 0 ≤ r.sharedCapacity) (h1 : 0 ≤ r.reservedCapacity)
    (h : r.sharedCapacity + r.reservedCapacity < 4294967296) :
    v1_sr_MaxCapacity r = r.reservedCapacity + r.sharedCapacity :=
  (u32_of_range (Int.add_nonneg h0 h1) h).trans (Int.add_comm ..)

theorem trans_C06_MaxCapacity_v2 (r : T_v2_sharedResource) (sh res f : Nat) (hs : r.sharedCapacity = sh)
    (hr : r.reservedCapacity = res) (hfac : r.factor = f) (hf2 : f * 500 < 4294967296) (h : sh + res < 4294967296) :
    v2_sr_MaxCapacity r = ((res + (if sh > f * 500 then f * 500 else sh) : Nat) : Int) := by
  have hm : (if f * 500 < sh then f * 500 else sh) ≤ sh := by split <;> omega
  have e : (f : Int) * 500 = ((f * 500 : Nat) : Int) := (Int.natCast_mul f 500).symm
  simp only [v2_sr_MaxCapacity, hs, hr, hfac, e, u32_natCast hf2, gt_iff_lt, Int.ofNat_lt, decide_eq_true_eq,
    ← apply_ite (Nat.cast : Nat → Int), ← Int.natCast_add]
  rw [u32_natCast (by omega), Nat.add_comm]

/-- the same figure as the model's `LInst.maxCapacity` -/
theorem trans_C06_MaxCapacity_model_v2 (r : T_v2_sharedResource) (x : LInst) (hg : x.gen = .v2)
    (h1 : r.factor = x.factor) (h2 : r.sharedCapacity = x.shared) (h3 : r.reservedCapacity = x.reserved)
    (hf2 : x.factor * 500 < 4294967296) (h : x.shared + x.reserved < 4294967296) :
    v2_sr_MaxCapacity r = (x.maxCapacity : Int) := by
  rw [trans_C06_MaxCapacity_v2 r _ _ _ h2 h3 h1 hf2 h, LInst.maxCapacity, hg]; rfl

/-- v1 `ProvisionedResource`: one configured value is both `Capacity()` and `MaxCapacity()` -/
theorem trans_C06_ProvisionedResource (r : T_v1_ProvisionedResource) :
    v1_pr_Capacity r = r.maxCapacity ∧ v1_pr_MaxCapacity r = r.maxCapacity := ⟨rfl, rfl⟩

/-! ### SharedResource: the demand (`GiveMe`) and the partition count -/

/-- `GiveMe(v)`: the target becomes ceil((v - reserved)+ / factor) — the model's `neededPartitions` — where an unset
factor (0: the default has not been applied yet because the resource is not provisioned) counts as 1, as in the
model, which applies the default when the instance is created (`LInst.init`). Before the fix `59bb98c` of finding F11
an unset factor made this a division by zero in floating point. -/
theorem trans_C07_C09_GiveMe_v2 (r : T_v2_sharedResource) (v res f : Nat) (hr : r.reservedCapacity = res) (hfac : r.factor = f)
    (hv : v < 4294967296) :
    v2_sr_GiveMe r v = { r with target := ((ceilDivN (v - res) (if f = 0 then 1 else f) : Nat) : Int) } := by
  rw [← giveMe_eq v res f hv, ← hr, ← hfac]; rfl

theorem trans_C07_C09_GiveMe_v1 (r : T_v1_AzureSharedResource) (v res f : Nat) (hr : r.reservedCapacity = res) (hfac : r.factor = f)
    (hv : v < 4294967296) :
    v1_sr_GiveMe r v = { r with target := ((ceilDivN (v - res) (if f = 0 then 1 else f) : Nat) : Int) } := by
  rw [← giveMe_eq v res f hv, ← hr, ← hfac]; rfl

/-- the number of partitions provisioned: ceil(shared / factor); v2 caps it at 500 — the model's `partitionCount` -/
theorem trans_C06_C17_partitionCount_v2 (r : T_v2_sharedResource) (sh f : Nat) (hs : r.sharedCapacity = sh) (hfac : r.factor = f)
    (hf : 0 < f) : v2_sr_partitionCount r = ((partitionCount .v2 sh f : Nat) : Int) := by
  simp only [v2_sr_partitionCount, hs, hfac, goCeilDiv_cast _ _ hf, partitionCount, maxPartitions, decide_eq_true_eq, gt_iff_lt,
    ofNat_lt_natCast]
  exact (apply_ite (Nat.cast : Nat → Int) ..).symm

/-- v1 refuses (an error, nothing provisioned) exactly when ceil(shared / factor) exceeds 500 -/
theorem trans_C06_C17_partitionCount_v1 (r : T_v1_AzureSharedResource) (sh f : Nat) (hs : r.sharedCapacity = sh) (hfac : r.factor = f)
    (hf : 0 < f) :
    v1_sr_partitionCount r = (((ceilDivN sh f : Nat) : Int), if ceilDivN sh f > maxPartitions then "PartitionsOutOfRangeError" else "") := by
  simp only [v1_sr_partitionCount, hs, hfac, goCeilDiv_cast _ _ hf, maxPartitions, decide_eq_true_eq, gt_iff_lt, ofNat_lt_natCast]
  exact (apply_ite (Prod.mk _) ..).symm

/-! ### SharedResource: which partition the loop asks for

`getAllocatedAndRandomUnallocatedPartition` translated with the random draw (`rand.Intn(len)`) as an input. Both
generations are `TransCore.pick` on the partition list; what is said of it here holds of both. -/

/-- indexes below `n` whose slot is nil (free partitions), ascending -/
def freeIdx (l : List Bool) (n : Nat) : List Nat := (List.range n).filter (fun i => !(l.getD i false))

/-- the partitions an instance counts, as the M-Lease machine keeps them: the indexes of the non-nil slots -/
def heldIdx (l : List Bool) : List Nat := (List.range l.length).filter (fun i => l.getD i false)

-- the default `true` of `getD` here (a slot beyond the list is not free) is the one the obligations `pick_is_free` state
theorem free_of_mem_freeIdx {l : List Bool} {i : Nat} (h : i ∈ freeIdx l l.length) : i < l.length ∧ l.getD i true = false := by
  obtain ⟨h1, h2⟩ := List.mem_filter.1 h
  have h1 := List.mem_range.1 h1
  rw [List.getD_eq_getElem?_getD, List.getElem?_eq_getElem h1] at h2 ⊢
  exact ⟨h1, by simpa using h2⟩

theorem mem_freeIdx_iff_not_held (l : List Bool) (p : Nat) : p ∈ freeIdx l l.length ↔ p < l.length ∧ p ∉ heldIdx l := by
  simp only [freeIdx, heldIdx, List.mem_filter, List.mem_range, not_and, Bool.not_eq_true', Bool.not_eq_true]
  exact and_congr_right fun h => ⟨fun f _ => f, fun f => f h⟩

theorem heldIdx_length (l : List Bool) : (heldIdx l).length = heldCount l := by
  rw [heldIdx, ← List.countP_eq_length_filter, countP_range_getD, heldCount]

theorem freeIdx_length (l : List Bool) : (freeIdx l l.length).length + heldCount l = l.length := by
  rw [← heldIdx_length, freeIdx, heldIdx, ← List.countP_eq_length_filter, ← List.countP_eq_length_filter, Nat.add_comm]
  have := List.length_eq_countP_add_countP (fun i => l.getD i false) (l := List.range l.length)
  simpa using this.symm

/-- the pick: the held count is the number of non-nil slots; with no free slot it reports an error (the loop then asks
for nothing); otherwise the index is the `k`-th free slot for the draw `k` -/
theorem pick_eq (l : List Bool) (k : Nat) (hl : l.length < 4294967296) :
    pick l k =
      if (freeIdx l l.length).length < 1 then ((heldCount l : Int), 0, "error")
      else ((heldCount l : Int), (((freeIdx l l.length).getD k 0 : Nat) : Int), "") := by
  have hg : ∀ (f : List Nat), (f.map (fun (i : Nat) => (i : Int))).getD k 0 = ((f.getD k 0 : Nat) : Int) := by
    intro f; simp only [List.getD_eq_getElem?_getD, List.getElem?_map]; cases f[k]? <;> rfl
  simp only [pick, pickLoop_eq l hl, List.length_map, Int.toNat_natCast, hg, decide_eq_true_eq, natCast_lt_ofNat]
  rfl

theorem trans_C07_C09_pick_v2 (r : T_v2_sharedResource) (k : Nat) (hl : r.partitions.length < 4294967296) :
    v2_sr_pick r k =
      if (freeIdx r.partitions r.partitions.length).length < 1 then ((heldCount r.partitions : Int), 0, "error")
      else ((heldCount r.partitions : Int), (((freeIdx r.partitions r.partitions.length).getD k 0 : Nat) : Int), "") := by
  rw [v2_sr_pick_eq]; exact pick_eq r.partitions k hl

theorem trans_C07_C09_pick_v1 (r : T_v1_AzureSharedResource) (k : Nat) (hl : r.partitions.length < 4294967296) :
    v1_sr_pick r k =
      if (freeIdx r.partitions r.partitions.length).length < 1 then ((heldCount r.partitions : Int), 0, "error")
      else ((heldCount r.partitions : Int), (((freeIdx r.partitions r.partitions.length).getD k 0 : Nat) : Int), "") := by
  rw [v1_sr_pick_eq]; exact pick_eq r.partitions k hl

theorem freeIdx_getD_mem (l : List Bool) (k : Nat) (hk : k < (freeIdx l l.length).length) :
    (freeIdx l l.length).getD k 0 ∈ freeIdx l l.length := by
  rw [List.getD_eq_getElem?_getD, List.getElem?_eq_getElem hk]; exact List.getElem_mem hk

/-- C07 / C09 / C04: the loop only ever asks the store for a partition it does NOT hold, inside the current list, and
compares the target with exactly the number it holds - for every partition list and every draw `rand.Intn` can return -/
theorem trans_C04_C07_C09_pick_is_free_v2 (r : T_v2_sharedResource) (k : Nat) (hl : r.partitions.length < 4294967296)
    (hk : k < (freeIdx r.partitions r.partitions.length).length) :
    ∃ i : Nat, v2_sr_pick r k = ((heldCount r.partitions : Int), (i : Int), "") ∧ i < r.partitions.length ∧
      r.partitions.getD i true = false :=
  ⟨_, by rw [trans_C07_C09_pick_v2 r k hl, if_neg (by omega)], free_of_mem_freeIdx (freeIdx_getD_mem _ _ hk)⟩

theorem trans_C04_C07_C09_pick_is_free_v1 (r : T_v1_AzureSharedResource) (k : Nat) (hl : r.partitions.length < 4294967296)
    (hk : k < (freeIdx r.partitions r.partitions.length).length) :
    ∃ i : Nat, v1_sr_pick r k = ((heldCount r.partitions : Int), (i : Int), "") ∧ i < r.partitions.length ∧
      r.partitions.getD i true = false :=
  ⟨_, by rw [trans_C07_C09_pick_v1 r k hl, if_neg (by omega)], free_of_mem_freeIdx (freeIdx_getD_mem _ _ hk)⟩

/-- all partitions held ⇒ the error value (and the loop's `err == nil && count < target` guard fails: no request) -/
theorem trans_C07_pick_none_when_all_held_v2 (r : T_v2_sharedResource) (k : Nat) (hl : r.partitions.length < 4294967296)
    (h : heldCount r.partitions = r.partitions.length) : (v2_sr_pick r k).2.2 = "error" := by
  have := freeIdx_length r.partitions
  rw [trans_C07_C09_pick_v2 r k hl, if_pos (by omega)]

/-- the guard of the M-Lease machine's `issue i p` label (Model/Lease.lean), on the abstraction of the partition list -/
def issueGuard (held : List Nat) (target parts p : Nat) : Prop := held.length < target ∧ p < parts ∧ p ∉ held

theorem issueGuard_iff (l : List Bool) (target p : Nat) :
    issueGuard (heldIdx l) target l.length p ↔ heldCount l < target ∧ p ∈ freeIdx l l.length := by
  rw [issueGuard, heldIdx_length, mem_freeIdx_iff_not_held]

/-- `hk`: what `rand.Intn(len(free))` can return; with no free partition no draw is made -/
theorem pick_issue_guard (l : List Bool) (k target : Nat) (hl : l.length < 4294967296)
    (hk : k < (freeIdx l l.length).length ∨ (freeIdx l l.length).length = 0) :
    (((pick l k).2.2 = "" ∧ (pick l k).1 < (target : Int)) → issueGuard (heldIdx l) target l.length (pick l k).2.1.toNat) ∧
    (¬ ((pick l k).2.2 = "" ∧ (pick l k).1 < (target : Int)) → ∀ p, ¬ issueGuard (heldIdx l) target l.length p) := by
  simp only [pick_eq l k hl, issueGuard_iff]
  split
  · exact ⟨fun h => absurd h.1 (by decide : "error" ≠ ""), fun _ p hp => by have := List.length_pos_of_mem hp.2; omega⟩
  · exact ⟨fun h => ⟨Int.ofNat_lt.1 h.2, freeIdx_getD_mem l k (by omega)⟩, fun h p hp => h ⟨rfl, Int.ofNat_lt.2 hp.1⟩⟩

/-- the loop body `count, index, err := pick(); if err == nil && count < target { lease(index) }` asks the store for
`index` exactly when the machine's `issue` label is enabled for it; and when the code asks for nothing, `issue` is
enabled for no partition at all -/
theorem trans_C04_C07_C09_issue_guard_v2 (r : T_v2_sharedResource) (k target : Nat) (hl : r.partitions.length < 4294967296)
    (hk : k < (freeIdx r.partitions r.partitions.length).length ∨ (freeIdx r.partitions r.partitions.length).length = 0) :
    (((v2_sr_pick r k).2.2 = "" ∧ (v2_sr_pick r k).1 < (target : Int)) →
        issueGuard (heldIdx r.partitions) target r.partitions.length (v2_sr_pick r k).2.1.toNat) ∧
    (¬ ((v2_sr_pick r k).2.2 = "" ∧ (v2_sr_pick r k).1 < (target : Int)) →
        ∀ p, ¬ issueGuard (heldIdx r.partitions) target r.partitions.length p) := by
  rw [v2_sr_pick_eq]; exact pick_issue_guard r.partitions k target hl hk

theorem trans_C04_C07_C09_issue_guard_v1 (r : T_v1_AzureSharedResource) (k target : Nat) (hl : r.partitions.length < 4294967296)
    (hk : k < (freeIdx r.partitions r.partitions.length).length ∨ (freeIdx r.partitions r.partitions.length).length = 0) :
    (((v1_sr_pick r k).2.2 = "" ∧ (v1_sr_pick r k).1 < (target : Int)) →
        issueGuard (heldIdx r.partitions) target r.partitions.length (v1_sr_pick r k).2.1.toNat) ∧
    (¬ ((v1_sr_pick r k).2.2 = "" ∧ (v1_sr_pick r k).1 < (target : Int)) →
        ∀ p, ¬ issueGuard (heldIdx r.partitions) target r.partitions.length p) := by
  rw [v1_sr_pick_eq]; exact pick_issue_guard r.partitions k target hl hk

/-- ... and `issueGuard` IS the enabling condition of `issue` in the machine the C04 / C07 / C09 theorems are about -/
theorem trans_C04_C07_C09_issue_enabled_iff (n : Nat) (s : LSt) (i p : Nat)
    (h1 : (s.inst i).loopOn = true) (h2 : (s.inst i).alive = true) (h3 : (s.inst i).call = none) :
    (lstepCore n s (.issue i p)).isSome ↔ issueGuard (s.inst i).held (s.inst i).target (s.inst i).parts p := by
  simp [lstepCore, issueGuard, h1, h2, h3, and_assoc]

/-! ### SharedResource: the requirement checks in front of provisioning (v1 `Provision`, v2 `Start`) -/

theorem v2_sr_requirements_eq (r : T_v2_sharedResource_req) : v2_sr_requirements r =
    if r.phase ≠ 0 then (r, "ImproperOrderError")
    else ({ r with factor := if r.factor = 0 then 1 else r.factor,
                   maxInterval := if r.maxInterval = 0 then 500 else r.maxInterval }, "") := by
  by_cases hf : r.factor = 0 <;> by_cases hm : r.maxInterval = 0 <;> simp [v2_sr_requirements, hf, hm] <;> rfl

theorem v1_sr_requirements_eq (r : T_v1_AzureSharedResource_req) : v1_sr_requirements r =
    if r.phase ≠ 0 then (r, "RateLimiterImproperOrderError")
    else if r.leaseManager = false then (r, "UndefinedLeaseManagerError")
    else if r.sharedCapacity < 1 then
      ({ r with factor := if r.factor = 0 then 1 else r.factor }, "UndefinedSharedCapacityError")
    else ({ r with factor := if r.factor = 0 then 1 else r.factor,
                   maxInterval := if r.maxInterval < 1 then 500 else r.maxInterval }, "") := by
  by_cases hf : r.factor = 0 <;> by_cases hm : r.maxInterval < 1 <;> simp [v1_sr_requirements, hf, hm] <;> rfl

/-- v2 `Start`: refused with `ImproperOrderError` unless the resource is uninitialised (C17: starts exactly once - the
phase is set to started at the end of a successful Start); otherwise an unset factor becomes 1 and an unset
MaxInterval 500 ms, so the loop's `rand.Intn(int(r.maxInterval))` never panics on a non-positive argument and the
divisions by the factor never see 0 (C09, C06) -/
theorem trans_C06_C09_C17_requirements_v2 (r : T_v2_sharedResource_req) (hf : 0 ≤ r.factor) (hm : 0 ≤ r.maxInterval)
    (hf2 : r.factor < 4294967296) (hm2 : r.maxInterval < 4294967296) :
    (r.phase ≠ 0 → v2_sr_requirements r = (r, "ImproperOrderError")) ∧
    (r.phase = 0 → (v2_sr_requirements r).2 = "" ∧
       (v2_sr_requirements r).1.factor = (if r.factor = 0 then 1 else r.factor) ∧
       (v2_sr_requirements r).1.maxInterval = (if r.maxInterval = 0 then 500 else r.maxInterval) ∧
       0 < (v2_sr_requirements r).1.factor ∧ 0 < (v2_sr_requirements r).1.maxInterval ∧
       (v2_sr_requirements r).1.phase = 0) := by
  rw [v2_sr_requirements_eq]
  refine ⟨fun h => if_pos h, fun h => ?_⟩
  rw [if_neg (fun h' => h' h)]
  refine ⟨rfl, rfl, rfl, ?_, ?_, h⟩ <;> dsimp only <;> split <;> omega

/-- v1 `Provision`: the order of the refusals (wrong phase, no lease manager, no shared capacity) and the same two
defaults; a refusal changes nothing but the defaulted factor -/
theorem trans_C06_C09_C17_requirements_v1 (r : T_v1_AzureSharedResource_req) (hf : 0 ≤ r.factor) (hm : 0 ≤ r.maxInterval)
    (hs : 0 ≤ r.sharedCapacity) :
    (v1_sr_requirements r).2 =
      (if r.phase ≠ 0 then "RateLimiterImproperOrderError"
       else if r.leaseManager = false then "UndefinedLeaseManagerError"
       else if r.sharedCapacity = 0 then "UndefinedSharedCapacityError" else "") ∧
    ((v1_sr_requirements r).2 = "" →
       (v1_sr_requirements r).1.factor = (if r.factor = 0 then 1 else r.factor) ∧
       (v1_sr_requirements r).1.maxInterval = (if r.maxInterval = 0 then 500 else r.maxInterval) ∧
       (v1_sr_requirements r).1.sharedCapacity = r.sharedCapacity) := by
  have e2 : r.maxInterval < 1 ↔ r.maxInterval = 0 := by omega
  have e3 : r.sharedCapacity < 1 ↔ r.sharedCapacity = 0 := by omega
  rw [v1_sr_requirements_eq]; simp only [e2, e3]
  by_cases h0 : r.phase ≠ 0
  · simp [h0]
  · by_cases h1 : r.leaseManager = false
    · simp [h0, h1]
    · by_cases h2 : r.sharedCapacity = 0 <;> simp [h0, h1, h2]

/-- a provisioning request is a token in a channel that holds one: after `scheduleProvision` exactly one is pending -/
theorem v2_sr_scheduleProvision_eq (sh : Int) (lm : Bool) (pv : Nat) (hp : pv ≤ 1) :
    v2_sr_scheduleProvision ⟨sh, lm, pv⟩ = ⟨sh, lm, 1⟩ := by
  rcases Nat.le_one_iff_eq_zero_or_eq_one.1 hp with rfl | rfl <;> rfl

/-- the end of v2 `Start` (after the requirement checks): if provisioning the container fails the error goes to the
caller and NOTHING changes - the phase stays uninitialised, no re-provisioning is requested (C17: a provisioning failure
reported to the caller leaves the resource not started); otherwise the phase becomes started and, with a lease
manager, one provisioning request is left for the loop -/
theorem trans_C17_startTail_v2 (sh : Int) (lm : Bool) (ph pv : Nat) (e : String) (hp : pv ≤ 1) :
    v2_sr_startTail { sharedCapacity := sh, leaseManager := lm, phase := ph, provision := pv } e =
      (if lm = true ∧ e ≠ "" then ({ sharedCapacity := sh, leaseManager := lm, phase := ph, provision := pv }, e)
       else ({ sharedCapacity := sh, leaseManager := lm, phase := 1, provision := if lm then 1 else (pv : Int) }, "")) := by
  cases lm <;> by_cases he : e = "" <;> simp [v2_sr_startTail, v2_sr_scheduleProvision_eq _ _ _ hp, he]

/-- v1: `Start` goes on only from the provisioned phase (1): only in the order Provision, Start, Stop; a stopped
resource (3) never starts again; a second `Stop` closes nothing -/
theorem trans_C17_startHead_v1 (ph : Nat) :
    v1_sr_startHead ⟨ph⟩ = (if ph = 1 then "" else "RateLimiterImproperOrderError") := by
  by_cases h : ph = 1 <;> simp [v1_sr_startHead, natCast_eq_ofNat, h]

theorem trans_C17_Stop_v1 (ph : Nat) (hasStop : Bool) :
    v1_sr_Stop ⟨ph⟩ hasStop = (if ph = 3 then (⟨3⟩, false, false) else (⟨3⟩, hasStop, true)) := by
  by_cases h : ph = 3 <;> cases hasStop <;> simp [v1_sr_Stop, natCast_eq_ofNat, h]

theorem trans_C17_no_start_after_stop_v1 (ph : Nat) (hasStop : Bool) :
    v1_sr_startHead (v1_sr_Stop ⟨ph⟩ hasStop).1 = "RateLimiterImproperOrderError" := by
  rw [trans_C17_Stop_v1, apply_ite Prod.fst, ite_self]; exact trans_C17_startHead_v1 3

/-- the end of v1 `Provision`: `count` free partitions, and the phase becomes provisioned WHATEVER creating the
partition blobs answered - its error is handed to the caller, but a following `Start` is accepted (the lease scenarios
with `partErr` exercise exactly this) -/
theorem trans_C17_provisionTail_v1 (ph : Int) (ps : List Bool) (count : Nat) (e : String) :
    v1_sr_provisionTail { phase := ph, partitions := ps } count e =
      ({ phase := 1, partitions := List.replicate count false }, e) ∧
    v1_sr_startHead ⟨(v1_sr_provisionTail { phase := ph, partitions := ps } count e).1.phase⟩ = "" := by
  simp [v1_sr_provisionTail, v1_sr_startHead]

theorem trans_C17_shutdown_v2 (ph : Int) : v2_sr_shutdown ⟨ph⟩ = (⟨3⟩, "ShutdownEvent|") := rfl

/-! ### SharedResource: live reconfiguration (C17) -/

/-- v2 `clearPartitionId` is bounds-checked: an index at or beyond the (possibly truncated) list changes nothing -/
theorem trans_C17_clearPartitionId_out_of_range_v2 (r : T_v2_sharedResource) (i : Nat) (h : r.partitions.length ≤ i) :
    v2_sr_clearPartitionId r i = r :=
  if_neg (by rw [decide_eq_true_eq]; omega)

/-- inside the range it clears exactly that slot -/
theorem trans_C17_clearPartitionId_in_range_v2 (r : T_v2_sharedResource) (i : Nat) (h : i < r.partitions.length) :
    v2_sr_clearPartitionId r i = { r with partitions := r.partitions.set i false } :=
  if_pos (by rw [decide_eq_true_eq]; omega)

/-- `SetReservedCapacity(v)` is visible in `Capacity()` at once -/
theorem trans_C17_SetReservedCapacity_v2 (r : T_v2_sharedResource) (v : Nat) (hf : 0 ≤ r.factor)
    (hl : r.partitions.length < 4294967296) (h : (v : Int) + r.factor * heldCount r.partitions < 4294967296) :
    v2_sr_Capacity (v2_sr_SetReservedCapacity r v) = (v : Int) + r.factor * heldCount r.partitions :=
  trans_C06_Capacity_after_calc_v2 { r with reservedCapacity := v } hf (Int.natCast_nonneg v) hl h

/-- `SetSharedCapacity(v)`: an error (and no change at all) without a lease manager; otherwise the new value is
stored and ONE re-provisioning request is left for the loop - a request already pending is not doubled, and the
value the loop will read is the latest one (it re-reads `sharedCapacity`, the request carries no value) -/
theorem trans_C17_SetSharedCapacity_v2 (sh : Int) (lm : Bool) (pending v : Nat) (hp : pending ≤ 1) :
    v2_sr_SetSharedCapacity { sharedCapacity := sh, leaseManager := lm, provision := pending } v =
      (if lm then ({ sharedCapacity := v, leaseManager := true, provision := 1 }, "")
       else ({ sharedCapacity := sh, leaseManager := false, provision := pending }, "SharedCapacityNotProvisioned")) := by
  cases lm <;> simp [v2_sr_SetSharedCapacity, v2_sr_scheduleProvision_eq _ _ _ hp]

/-- two calls in a row: the second value wins, one request is pending -/
theorem trans_C09_C17_SetSharedCapacity_twice_v2 (sh : Int) (pending v w : Nat) (hp : pending ≤ 1) :
    (v2_sr_SetSharedCapacity (v2_sr_SetSharedCapacity { sharedCapacity := sh, leaseManager := true, provision := pending } v).1 w).1
      = { sharedCapacity := w, leaseManager := true, provision := 1 } := by
  rw [trans_C17_SetSharedCapacity_v2 sh true pending v hp, if_pos rfl]
  exact congrArg Prod.fst (trans_C17_SetSharedCapacity_v2 v true 1 w (Nat.le_refl 1))

/-- re-provisioning swaps in a list of exactly the new partition count that agrees with the old one wherever both
have a slot: held partitions that still exist stay counted, dropped ones are gone, new ones start free -/
theorem trans_C07_C17_reprovision_v2 (r : T_v2_sharedResource) :
    (v2_sr_reprovision r).2 = v2_sr_partitionCount r ∧
    (v2_sr_reprovision r).1.partitions.length = (v2_sr_partitionCount r).toNat ∧
    (∀ i, i < (v2_sr_partitionCount r).toNat →
        (v2_sr_reprovision r).1.partitions.getD i false = r.partitions.getD i false) ∧
    (v2_sr_reprovision r).1.factor = r.factor ∧ (v2_sr_reprovision r).1.sharedCapacity = r.sharedCapacity ∧
    (v2_sr_reprovision r).1.target = r.target := by
  simp only [v2_sr_reprovision, List.length_replicate]
  exact ⟨rfl, length_resize .., fun i hi => getD_resize _ _ i hi, trivial, trivial, trivial⟩

/-! ### SharedResource: what the loop does with the answer of a lease call (the repaired finding F7) -/

/-- the loop counts a partition only for a lease the store granted (`granted > 0` ns) and that has not run out while
the answer travelled (`elapsed < granted`); the goroutine that stops counting it sleeps `granted - elapsed`, i.e. the
partition is counted until exactly `granted` after the REQUEST was issued - never longer than the store's lease,
whatever the latency of the call; a late answer is dropped (nothing marked, nothing spawned) -/
theorem trans_C04_C09_grant_v2 (r : T_v2_sharedResource_grant) (now granted elapsed : Nat) :
    (v2_sr_grant r now granted elapsed).2 =
      (if granted = 0 ∨ granted ≤ elapsed then (false, 0, false) else (true, ((granted - elapsed : Nat) : Int), true)) := by
  rw [← grant_eq]; simp only [v2_sr_grant, grant, apply_ite Prod.snd]

theorem trans_C04_C09_grant_v1 (r : T_v1_AzureSharedResource_grant) (now granted elapsed : Nat) :
    v1_sr_grant r now granted elapsed =
      (if granted = 0 ∨ granted ≤ elapsed then (false, 0, false) else (true, ((granted - elapsed : Nat) : Int), true)) :=
  grant_eq granted elapsed

/-- the instant the partition stops being counted: request time + elapsed + sleep = request time + lease -/
theorem trans_C04_counted_until_issue_plus_lease_v2 (r : T_v2_sharedResource_grant) (now granted elapsed : Nat)
    (h : (v2_sr_grant r now granted elapsed).2.2.2 = true) :
    (now : Int) + elapsed + (v2_sr_grant r now granted elapsed).2.2.1 = now + granted := by
  rw [trans_C04_C09_grant_v2] at h ⊢
  split at h
  · cases h
  · rw [if_neg ‹_›]; simp only; omega

/-- ... which is the machine's `ret` label for a granted call: dropped iff the lease has already run out when the answer
arrives, else counted with a timer at issue time + lease (`afterGrant`) -/
theorem trans_C04_grant_is_ret (r : T_v2_sharedResource_grant) (s : LSt) (cl : LCall) (hl : 0 < s.lease)
    (hi : cl.issuedAt ≤ s.now) (e : Nat) (he : e = s.now - cl.issuedAt) :
    ((v2_sr_grant r cl.issuedAt s.lease e).2.2.2 = true ↔ ¬ (cl.issuedAt + s.lease ≤ s.now)) ∧
    ((v2_sr_grant r cl.issuedAt s.lease e).2.2.2 = true →
      (s.now : Int) + (v2_sr_grant r cl.issuedAt s.lease e).2.2.1 = ((cl.issuedAt + s.lease : Nat) : Int)) := by
  rw [trans_C04_C09_grant_v2]
  split <;> simp <;> omega

/-- `setPartitionId(i, id)` (after a grant) marks exactly partition `i` as held and touches no other; with the pick's
guarantee that `i` was free, the loop then holds one partition more -/
theorem trans_C04_C07_setPartitionId_v2 (r : T_v2_sharedResource) (i : Nat) (hi : i < r.partitions.length) :
    (v2_sr_setPartitionId r i).partitions.length = r.partitions.length ∧
    (v2_sr_setPartitionId r i).partitions.getD i false = true ∧
    (∀ j, j ≠ i → (v2_sr_setPartitionId r i).partitions.getD j false = r.partitions.getD j false) := by
  simp only [v2_sr_setPartitionId, Int.toNat_natCast, List.length_set, List.getD_eq_getElem?_getD, List.getElem?_set]
  refine ⟨trivial, by simp [hi], fun j hj => ?_⟩
  have : ¬ i = j := fun h => hj h.symm
  simp [this]

/-! ### the listener registry (v2 `EventerBase`; the sequential meaning of what runs under its RWMutex)

The map `listeners` is an association list (id, listener); `uuid.New()` is an input. -/

/-- `AddListener` registers the listener under the fresh id and returns that id; every other registration stays -/
theorem trans_C20_AddListener_v2 (ls : List (Int × Int)) (newId fn : Int) (hfresh : ∀ kv ∈ ls, kv.1 ≠ newId) :
    v2_ev_AddListener ⟨ls⟩ newId fn = (⟨(newId, fn) :: ls⟩, newId) := by
  simp only [v2_ev_AddListener, apply_ite T_v2_EventerBase.listeners, filter_fresh ls newId hfresh]

/-- after `RemoveListener(id)` has returned no registration under `id` is left, and every other one is -/
theorem trans_C20_RemoveListener_v2 (ls : List (Int × Int)) (id : Int) :
    (∀ kv ∈ (v2_ev_RemoveListener ⟨ls⟩ id).listeners, kv.1 ≠ id) ∧
    (∀ kv ∈ ls, kv.1 ≠ id → kv ∈ (v2_ev_RemoveListener ⟨ls⟩ id).listeners) :=
  ⟨fun _ h => ((mem_filter_ne ..).1 h).2, fun _ h hne => (mem_filter_ne ..).2 ⟨h, hne⟩⟩

/-- `Emit` calls exactly the registered listeners, each once per registration (the machine's snapshot at `emitBegin`) -/
theorem trans_C20_Emit_v2 (ls : List (Int × Int)) (val : Int) : v2_ev_Emit ⟨ls⟩ val = ls.map (·.2) :=
  List.nil_append _

/-- so a listener removed before an emit begins is not called by it, and one added before is -/
theorem trans_C20_no_call_after_remove_v2 (ls : List (Int × Int)) (id fn val : Int)
    (huniq : ∀ kv ∈ ls, kv.2 = fn → kv.1 = id) :
    fn ∉ v2_ev_Emit (v2_ev_RemoveListener ⟨ls⟩ id) val := by
  rw [trans_C20_Emit_v2]
  intro h
  obtain ⟨kv, hkv, hfn⟩ := List.mem_map.1 h
  obtain ⟨hin, hne⟩ := (mem_filter_ne ..).1 hkv
  exact hne (huniq kv hin hfn)

/-- v1's registry (`eventer`) is the same three functions -/
theorem trans_C20_eventer_v1 (ls : List (Int × Int)) (newId fn id val : Int) (hfresh : ∀ kv ∈ ls, kv.1 ≠ newId) :
    v1_ev_AddListener ⟨ls⟩ newId fn = (⟨(newId, fn) :: ls⟩, newId) ∧
    (∀ kv ∈ (v1_ev_RemoveListener ⟨ls⟩ id).listeners, kv.1 ≠ id) ∧
    (∀ kv ∈ ls, kv.1 ≠ id → kv ∈ (v1_ev_RemoveListener ⟨ls⟩ id).listeners) ∧
    v1_ev_emit ⟨ls⟩ val = ls.map (·.2) :=
  ⟨by simp only [v1_ev_AddListener, apply_ite T_v1_eventer.listeners, filter_fresh ls newId hfresh],
   fun _ h => ((mem_filter_ne ..).1 h).2, fun _ h hne => (mem_filter_ne ..).2 ⟨h, hne⟩, List.nil_append _⟩

/-! ### non-vacuity: the translated functions on concrete values (also a readable trace of what they compute) -/

example : v2_incTarget ⟨7⟩ 5 = ⟨12⟩ ∧ v2_incTarget ⟨7⟩ (-5) = ⟨2⟩ ∧ v2_incTarget ⟨7⟩ (-9) = ⟨0⟩ ∧ v2_incTarget ⟨7⟩ 0 = ⟨7⟩ := by decide
example : v1_incTarget ⟨4294967295⟩ 1 = ⟨0⟩ := by decide     -- the wrap-around the `total < 2^32` guard excludes
example : v1_trySetTargetToZero ⟨3⟩ = (⟨0⟩, true) ∧ v2_confirmTargetIsZero ⟨0⟩ = (⟨0⟩, true) := by decide
example : v2_sr_Capacity (v2_sr_calc ⟨10, 25, 7, 0, 0, [true, false, true]⟩) = 27 := by decide
example : v2_sr_MaxCapacity ⟨2, 5000, 7, 0, 0, []⟩ = 1007 := by decide
example : (v2_sr_GiveMe ⟨10, 100, 7, 0, 0, []⟩ 28).target = 3 := by decide
example : v2_sr_partitionCount ⟨10, 5001, 0, 0, 0, []⟩ = 500 := by decide
example : v1_sr_partitionCount ⟨1000, 500001, 0, 0, 0, []⟩ = (501, "PartitionsOutOfRangeError") := rfl
example : (v2_sr_clearPartitionId ⟨1, 2, 0, 0, 0, [true, true]⟩ 2).partitions = [true, true] := by decide
example : v2_enqueueAdmit ⟨true, 0, 0, 0, 0, 0⟩ true true 11 10 3 0 = "TooExpensiveError" ∧
          v2_enqueueAdmit ⟨false, 0, 0, 0, 0, 0⟩ true true 11 10 3 0 = "" ∧
          v1_enqueueAdmit ⟨true, 0, 0, 0, 0, 0⟩ true true 10 10 3 3 = "TooManyAttemptsError" ∧
          v1_enqueueAdmit ⟨true, 0, 0, 0, 0, 0⟩ true false 10 10 3 3 = "NoWatcherError" := ⟨rfl, rfl, rfl, rfl⟩
example : v2_applyDefaults ⟨false, 0, -5, 7, 0, 1⟩ = ⟨false, 100000000, 100000000, 7, 60000000000, 1⟩ := by decide
example : v2_sr_pick ⟨1, 4, 0, 0, 0, [true, false, true, false]⟩ 1 = (2, 3, "") ∧
          v2_sr_pick ⟨1, 4, 0, 0, 0, [true, false, true, false]⟩ 0 = (2, 1, "") ∧
          v1_sr_pick ⟨1, 2, 0, 0, 0, [true, true]⟩ 0 = (2, 0, "error") := ⟨rfl, rfl, rfl⟩
example : issueGuard (heldIdx [true, false, true, false]) 3 4 (v2_sr_pick ⟨1, 4, 0, 0, 0, [true, false, true, false]⟩ 1).2.1.toNat := by
  unfold issueGuard; decide
example : v2_op_Attempt (v2_op_MakeAttempt ⟨5, 4294967295, true⟩) = 0 := by decide   -- the wrap the guard excludes
example : v2_sr_requirements ⟨0, 0, 0⟩ = (⟨1, 500, 0⟩, "") ∧ v2_sr_requirements ⟨0, 0, 1⟩ = (⟨0, 0, 1⟩, "ImproperOrderError") := ⟨rfl, rfl⟩
example : (v1_sr_requirements ⟨0, 0, 10, true, 0⟩) = (⟨1, 500, 10, true, 0⟩, "") := by decide
example : v2_auditArm ⟨7⟩ 0 11 10 false = (⟨0⟩, "AuditFailEvent|AuditMsgFailureOnTargetAndInflight") ∧
          v2_auditArm ⟨7⟩ 1 11 10 false = (⟨7⟩, "AuditSkipEvent|") ∧ v2_auditArm ⟨0⟩ 0 11 10 true = (⟨0⟩, "AuditPassEvent|") := ⟨rfl, rfl, rfl⟩

end GoBatcher.ExpectTrans
