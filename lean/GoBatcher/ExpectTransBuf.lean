import GoBatcher.Generated.TransBuf
import GoBatcher.Props.C15b
/-!
The methods of `/repo/v2/buffer.go`, TRANSLATED from the source on every run (`Generated/TransBuf.lean`, by
/verif/extract/transbuf.go), equal the hand-written L0 operations of `Model/BufferLinked.lean` on EVERY heap (well
formed or not, including heaps in which a nil dereference or one of the two `panic`s is reached). Hence the
refinement theorems of `Props/C15b.lean` are theorems about what the source says.
-/
namespace GoBatcher.ExpectTransBuf
open HeapSem

theorem rd_some (b : LBuf) (c : Nat) : rd b (some c) = b.heap[c]? := rfl
theorem rd_none (b : LBuf) : rd b none = none := rfl

/-- `if b.cursor == nil { return nil }; return b.cursor.op` as the translator prints it (the end of `top`, `skip` and
`remove`) is `LBuf.curOp` -/
theorem curOp_src (b : LBuf) :
    (if (b.cursor == none) then some (b, none) else (rd b b.cursor).bind fun t => some (b, some t.op)) =
      b.curOp.map (fun r => (b, r)) := by
  unfold LBuf.curOp
  cases b.cursor with
  | none => rfl
  | some c => simp only [rd_some]; cases b.heap[c]? <;> rfl

theorem trans_C15_top (b : LBuf) : TransBuf.top b = b.top := curOp_src _

theorem trans_C15_skip (b : LBuf) : TransBuf.skip b = b.skip := by
  unfold TransBuf.skip LBuf.skip
  cases b.cursor with
  | none => rfl
  | some c => show (b.heap[c]?).bind _ = (b.heap[c]?).bind _; exact congrArg _ (funext fun l => curOp_src _)

theorem trans_C15_shutdown (b : LBuf) : TransBuf.shutdown b = some b.shutdown := rfl

theorem trans_C15_size (b : LBuf) : TransBuf.size b = b.size := rfl

theorem trans_C15_enqueue (b : LBuf) (op : Op) (eof : Bool) : TransBuf.enqueue b op eof = b.enqueue op eof := by
  obtain ⟨heap, head, tail, cursor, len, cap, shut⟩ := b
  unfold TransBuf.enqueue LBuf.enqueue
  cases shut
  · by_cases hf : len ≥ cap
    · simp only [hf, decide_true, if_true, Bool.false_eq_true, if_false]; cases eof <;> rfl
    · simp only [hf, decide_false, if_false, Bool.false_eq_true]
      rcases head with _ | h
      · rfl
      rcases tail with _ | t
      · rfl
      simp only [storeNxt, Option.bind_some]
      cases (heap ++ [({ prv := some t, op := op, nxt := none } : Link)])[t]? <;> rfl
  · rfl

/-- the end of `remove()` as the translator prints it (the `len` check, the decrement, the operation under the
cursor `cur`) is the end of `LBuf.remove` -/
theorem fin_src (heap : List Link) (head tail cur : Option Nat) (len cap : Nat) (shut : Bool) :
    let b : LBuf := ⟨heap, head, tail, cur, len - 1, cap, shut⟩
    (if (len == 0) = true then none
     else if (cur == none) = true then some (b, none) else (rd b cur).bind fun t => some (b, some t.op)) =
    if len = 0 then none else b.curOp.map (fun r => (b, r)) := by
  intro b; rw [← curOp_src]; by_cases h : len = 0 <;> simp [h, b]

theorem trans_C15_remove (b : LBuf) : TransBuf.remove b = b.remove := by
  obtain ⟨heap, head, tail, cursor, len, cap, shut⟩ := b
  cases cursor with
  | none => rfl
  | some c =>
    -- one pass over the translated body: the reads through the cursor, the stores, the seven copies of the method's end
    simp only [TransBuf.remove, LBuf.remove, LBuf.unlink, rd_some, fin_src, storeNxt, storePrv]
    cases heap[c]? with
    | none => rfl
    | some l =>
      obtain ⟨prv, op, nxt⟩ := l
      -- the four arms of the `switch`; `reduceIte` drops the arms not taken without visiting them
      cases prv <;> cases nxt <;>
        simp only [↓reduceIte, Option.bind_some, bne_iff_ne, ne_eq, reduceCtorEq, not_false_eq_true, not_true_eq_false,
          beq_iff_eq]
      -- the first and the last node: one store into the neighbour, then the cursor is read again through the new heap
      iterate 2
        cases heap[‹Nat›]? with
        | none => rfl
        | some _ =>
          simp only [Option.map_some, Option.bind_some, rd_some]
          generalize heap.set _ _ = h1
          cases h1[c]? <;> rfl
      -- a node in the middle: two stores, the second through the re-read cursor
      rename_i p n
      cases heap[p]? with
      | none => rfl
      | some pl =>
        simp only [Option.map_some, Option.bind_some, rd_some]
        generalize heap.set _ _ = h1
        cases h1[c]? with
        | none => rfl
        | some l1 =>
          obtain ⟨prv1, op1, nxt1⟩ := l1
          cases nxt1 with
          | none => rfl
          | some n1 =>
            simp only [Option.bind_some]
            cases h1[n1]? with
            | none => rfl
            | some nl =>
              simp only [Option.map_some, Option.bind_some, rd_some]
              generalize h1.set _ _ = h2
              cases h2[c]? <;> rfl

/-! ### the refinement theorems, restated over the TRANSLATED methods -/

/-- one public buffer operation, executed by the translated source -/
def applySrc (b : LBuf) : BOp → Option (LBuf × BOut)
  | .top => (TransBuf.top b).map (fun r => (r.1, .op r.2))
  | .skip => (TransBuf.skip b).map (fun r => (r.1, .op r.2))
  | .remove => (TransBuf.remove b).map (fun r => (r.1, .op r.2))
  | .enqueue op eof => (TransBuf.enqueue b op eof).map (fun r => (r.1, .enq r.2))
  | .shutdown => (TransBuf.shutdown b).map (fun r => (r, .unit))
  | .size => some (b, .size (TransBuf.size b))

def runSrc : LBuf → List BOp → Option (LBuf × List BOut)
  | b, [] => some (b, [])
  | b, o :: os => (applySrc b o).bind fun r => (runSrc r.1 os).map fun rest => (rest.1, r.2 :: rest.2)

theorem trans_C15_applySrc_eq (b : LBuf) (o : BOp) : applySrc b o = b.apply o := by
  cases o <;> simp [applySrc, LBuf.apply, trans_C15_top, trans_C15_skip, trans_C15_remove, trans_C15_enqueue,
    trans_C15_shutdown, trans_C15_size]

theorem trans_C15_runSrc_eq : ∀ (os : List BOp) (b : LBuf), runSrc b os = LBuf.runOps b os
  | [], _ => rfl
  | o :: os, b => by
    simp only [runSrc, LBuf.runOps, trans_C15_applySrc_eq]
    cases b.apply o with
    | none => rfl
    | some r => simp [trans_C15_runSrc_eq os r.1]

/-- C15 over the source: from `newBuffer(cap)`, every sequence of buffer operations executed by the TRANSLATED
`buffer.go` returns exactly what the list-with-cursor model L1 returns ... -/
theorem trans_C15_source_refines_L1 (cap : Nat) (os : List BOp) :
    (runSrc (LBuf.new cap) os).map (·.2) = some (Buf.runOps (Buf.new cap) os).2 := by
  rw [trans_C15_runSrc_eq]; exact C15_L0_refines_L1 cap os

/-- ... never reaches a `panic` or a nil dereference ... -/
theorem trans_C15_source_never_panics (cap : Nat) (os : List BOp) : (runSrc (LBuf.new cap) os).isSome = true := by
  rw [trans_C15_runSrc_eq]; exact C15_L0_never_panics cap os

/-- ... and its `len` counter is the number of buffered operations, at most `cap` -/
theorem trans_C15_source_len_bounded (cap : Nat) (os : List BOp) :
    ∃ b, runSrc (LBuf.new cap) os = some (b, (Buf.runOps (Buf.new cap) os).2) ∧ b.len ≤ cap ∧ b.cap = cap ∧
      b.len = (Buf.runOps (Buf.new cap) os).1.items.length := by
  rw [trans_C15_runSrc_eq]; exact C15_L0_len_bounded cap os

/-- non-vacuity: the translated methods on a concrete run (fill to capacity, refuse, walk, remove in the middle) -/
example :
    let o (k : Nat) : Op := { id := k, obj := k, w := 0, cost := 1, batchable := true }
    (runSrc (LBuf.new 2) [.enqueue (o 1) true, .enqueue (o 2) true, .enqueue (o 3) true, .top, .skip, .remove, .size]).map (·.2)
      = some [.enq .ok, .enq .ok, .enq .full, .op (some (o 1)), .op (some (o 2)), .op none, .size 1] := by decide

end GoBatcher.ExpectTransBuf
