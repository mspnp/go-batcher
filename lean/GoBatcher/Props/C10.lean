import GoBatcher.Lemmas.CycleShape
/-!
# C10 — MaxConcurrentBatches respected, slots not leaked (cycle level)

Inside one uninterrupted cycle with `n` free slots: a slot is reserved only while one is free, every reserved
slot belongs to exactly one new batch (raised or still open — the open ones are raised by the sweep), so the
number of batches started never exceeds `n`; operations that cannot get a slot stay buffered. The invariant
over the whole machine (`SlotsOK`: slots taken = batches in progress ≤ n, slots given back on return/time-out) is `C10b`.
-/
namespace GoBatcher.C10

theorem cycle_slots (c : Cfg) (buf : List Op) (n : Nat) :
    let r := scan c buf { consumed := 0, openB := [] } (some n)
    ∃ n', r.free = some n' ∧ n' ≤ n ∧ r.raised.length + r.acc.openB.length = n - n' := by
  obtain ⟨n', h1, h2, h3⟩ := (scan_scans c buf { consumed := 0, openB := [] } (some n)).slots
  exact ⟨n', h1, h2, Nat.eq_sub_of_add_eq (h3.trans (Nat.zero_add n))⟩

/-- never more than `n` batches are started by one cycle that began with `n` free slots -/
theorem cycle_batches_le_slots (c : Cfg) (buf : List Op) (n : Nat) :
    let r := scan c buf { consumed := 0, openB := [] } (some n)
    r.raised.length + r.acc.openB.length ≤ n := by
  obtain ⟨n', _, _, h⟩ := cycle_slots c buf n
  exact Nat.le_trans (Nat.le_of_eq h) (Nat.sub_le n n')

/-- operations that cannot get a slot stay buffered: they are left in place only when no slot is free -/
theorem skipped_only_without_slot (c : Cfg) (buf : List Op) (a : Acc) (free : Option Nat) :
    (scan c buf a free).kept ≠ [] → slotAvail (scan c buf a free).free = false :=
  (scan_scans c buf a free).kept

/-- with zero free slots nothing is released and the buffer is unchanged -/
theorem no_slot_no_release (c : Cfg) (buf : List Op) :
    let r := scan c buf { consumed := 0, openB := [] } (some 0)
    r.raised = [] ∧ r.acc.openB = [] := by
  intro r
  have h : r.raised.length + r.acc.openB.length = 0 := Nat.le_zero.mp (cycle_batches_le_slots c buf 0)
  exact ⟨List.eq_nil_of_length_eq_zero (Nat.eq_zero_of_add_eq_zero_right h),
    List.eq_nil_of_length_eq_zero (Nat.eq_zero_of_add_eq_zero_left h)⟩

-- non-vacuity
private def o (id w : Nat) (b : Bool) : Op := { id := id, obj := id, w := w, cost := 1, batchable := b }
example : (scan { ge := true, limited := false, allow := 0, mb := fun _ => 0 } [o 0 0 false, o 1 0 false, o 2 0 false]
    { consumed := 0, openB := [] } (some 2)).kept = [o 2 0 false] := by decide

end GoBatcher.C10
