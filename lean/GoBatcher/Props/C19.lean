import GoBatcher.Lemmas.BatcherLoop
import GoBatcher.Lemmas.BatcherAcct
import GoBatcher.Lemmas.BatcherSlots
/-!
# C19 — The audit never disturbs a healthy Batcher and repairs a stale one

Model: M-Batcher. Healthy = no watcher MaxOperationTime above the Batcher's, constant costs. The unchanged code
fails the "never disturbs" clause in one situation — an audit tick firing while an Enqueue sits between counting
its cost and inserting the operation (finding F9); the theorem carries that hypothesis (`s.pend = []`), and
`C03.C03_counterexample_audit_in_flight` is the refuting execution, replayed on the code through the verif hook.
-/
namespace GoBatcher.C19

/-- an audit runs on every AuditInterval tick while the Batcher is running and not paused: the tick fires at
exactly `nextA`, every AuditInterval (default 10 s) … -/
theorem audit_ticks (c : BCfg) (s s' : St) (h : step c s .fireA = some s') :
    s.now = s.nextA ∧ s'.nextA = s.nextA + c.auditInt ∧ s'.tickA = true := by
  cases Step.of_step h with
  | fireA _ hn => exact ⟨hn, rfl, rfl⟩

theorem audit_interval_default (v : Int) (h : v ≤ 0) : applyDefault v defAudit = 10000000000 := by
  simp [applyDefault, h, defAudit]

/-- … and with an idle loop time cannot pass over an unanswered audit tick -/
theorem audit_tick_is_urgent (s : St) (dt : Nat) (h : canAdvance s dt = true) (hl : s.loop = .idle) :
    s.tickA = false := (idle_time_passes_only_when_nothing_ready s dt h hl).2.2.1

/-- **Healthy Batcher.** If the demand figure is right before the audit (C03's invariant), no watcher has a
MaxOperationTime above the Batcher's, and no Enqueue is in flight (finding F9), the audit raises only
audit-pass or audit-skip and changes neither NeedsCapacity() nor Inflight(). -/
theorem audit_leaves_healthy_batcher_alone (c : BCfg) (s s' : St) (h : step c s .takeAudit = some s')
    (hw : ∀ w, effMot c w ≤ c.mot) (hp : s.pend = []) (ha : Acct s) (ht : TimeOK c s) (hq : QuietOK s)
    (hs : SlotsOK c s) :
    s'.target = s.target ∧ s'.slots = s.slots ∧
    ∃ o, s'.audits = s.audits ++ [(s.now, o)] ∧ (o = .pass ∨ o = .skip) := by
  cases Step.of_step h with | takeAudit hl => ?_
  refine ⟨doAudit_target c s hw hl (fun _ => hp) ht hq ha, doAudit_slots c s hw hl ht hs, ?_⟩
  by_cases hc : auditCond c s = true
  · have htz : s.target = 0 := ha.trans (audit_nothing_outstanding c s hw hl hc hp ht hq)
    have hsz := audit_slots_zero c s hw hl hc ht hs
    refine ⟨.pass, ?_, Or.inl rfl⟩
    simp only [doAudit, auditOutcome, hc, if_true, htz, hsz]
    cases c.gen <;> simp
  · refine ⟨.skip, ?_, Or.inr rfl⟩
    simp [doAudit, auditOutcome, hc]

/-- **Stale figure repaired.** If the figure is non-zero although the buffer is empty and the Batcher has been
idle for longer than MaxOperationTime, the audit resets it to zero and raises audit-fail. -/
theorem audit_repairs_stale_figure (c : BCfg) (s s' : St) (h : step c s .takeAudit = some s')
    (hc : auditCond c s = true) (hnz : s.target > 0) :
    s'.target = 0 ∧ ∃ o, s'.audits = s.audits ++ [(s.now, o)] ∧ (o = .failTarget ∨ o = .failBoth) := by
  cases Step.of_step h with | takeAudit => ?_
  refine ⟨by simp [doAudit, hc], ?_⟩
  simp only [doAudit, auditOutcome, hc, if_true]
  cases c.gen with
  | v1 => exact ⟨.failTarget, by simp [hnz], Or.inl rfl⟩
  | v2 =>
    by_cases hs : s.slots > 0
    · exact ⟨.failBoth, by simp [hnz, hs], Or.inr rfl⟩
    · exact ⟨.failTarget, by simp [hnz, hs], Or.inl rfl⟩

/-- the audit condition is exactly: buffer empty and more than MaxOperationTime since the last flush with records -/
theorem audit_condition (c : BCfg) (s : St) :
    auditCond c s = true ↔ (s.bm.buf.items = [] ∧ (s.lastFlush = none ∨ ∃ t, s.lastFlush = some t ∧ s.now - t > c.mot)) := by
  unfold auditCond
  cases hl : s.lastFlush <;> simp [List.isEmpty_iff]

-- non-vacuity: staleness injected by an operation whose cost changes between enqueue (7) and completion (2)
private def cfg : BCfg :=
  { gen := .v2, bufCap := 4, limited := false, flushInt := 100, capInt := 1000, auditInt := 300, mot := 50, pause := 5,
    errorOnFull := false, mcb := 0, wMaxBatch := fun _ => 0, wMot := fun _ => 0, rollback := true, wos := true }
private def o7 : Op := { id := 1, obj := 1, w := 0, cost := 7, batchable := false }
example : ∃ s, run cfg (St.init cfg) [.startCall, .enqCount 1 o7, .enqInsert 1, .advance 100, .fireF, .takeFlushTick,
    .cycleBegin 0, .cycleStep, .scanEnd, .cycleEnd, .setCost 1 2, .cbReturn 0, .finish 0, .advance 100, .fireF, .takeFlushTick,
    .cycleBegin 0, .scanEnd, .cycleEnd, .advance 100, .fireF, .fireA, .takeFlushTick, .cycleBegin 0, .scanEnd, .cycleEnd,
    .takeAudit] = some s ∧ s.target = 0 ∧ s.audits = [(300, .failTarget)] := by
  refine ⟨_, rfl, ?_, ?_⟩ <;> decide

end GoBatcher.C19
