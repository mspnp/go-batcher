import GoBatcher.Lemmas.LeaseReach
/-!
# C04 — A partition is counted only while its lease is valid; instances never share one

Model: M-Lease — any number `n` of instances of either generation on one lease store, all demand histories,
lease-call latencies (the store may process a request at any instant between issue and return), poll and partition
choices, refusals and errors at any call, crashes, stops, and v2 reconfiguration in between.

The statements are about *settled* instants (every expiry timer that is due has fired — the states in which an
observer reads `Capacity()`; the expiry goroutine and the observer race at the very instant a lease ends).

History: on the code as found, three things broke this property (findings F7: timer started at the return of the
lease call; F8: v2 re-provisioning blocked expiry; F10: a stopped v2 instance never cleared its partitions). All
three were shown by the lease family on the real code and repaired (`fix:` commits); the model is the repaired code.
-/
namespace GoBatcher.C04

/-- `GoBatcher.initSt` (Lemmas/LeaseReach) under this property's name. The theorems of C04 start from it with `Fresh`; those of
C06, C07 and C17 use `LReach` with `Configured`, which implies `Fresh` (`configured_fresh`). -/
def initSt (lease : Nat) (inst : Nat → LInst) : LSt := { now := 0, lease := lease, store := fun _ => none, inst := inst }

/-- an initial configuration: nothing held, no timers, no calls -/
def Fresh (inst : Nat → LInst) : Prop := ∀ i, (inst i).held = [] ∧ (inst i).timers = [] ∧ (inst i).call = none

theorem excl_init (lease : Nat) (inst : Nat → LInst) (h : Fresh inst) (n : Nat) :
    Excl (initSt lease inst) ∧ Inert n (initSt lease inst) := init_excl lease inst h n

theorem run_excl (n : Nat) : ∀ (ls : List LLabel) (s s' : LSt), lrun n s ls = some s' → Excl s → Inert n s →
    Excl s' ∧ Inert n s' := run_excl_inert n

/-- every expiry timer that is due has fired -/
def Settled (s : LSt) : Prop := ∀ i p c, (p, c) ∈ (s.inst i).timers → s.now < c

/-- **Counted only while the lease is valid.** In every reachable settled state, a partition that instance `i`
counts toward Capacity() is leased to `i` in the store, and that lease has not run out. -/
theorem counted_only_while_lease_valid (n lease : Nat) (inst : Nat → LInst) (hf : Fresh inst)
    (ls : List LLabel) (s : LSt) (hr : lrun n (initSt lease inst) ls = some s) (hs : Settled s)
    (i p : Nat) (hp : p ∈ (s.inst i).held) : ∃ u, s.store p = some (i, u) ∧ s.now < u := by
  have he := (run_excl n ls _ s hr (excl_init lease inst hf n).1 (excl_init lease inst hf n).2).1
  obtain ⟨c, hc, hor⟩ := he.hold i p hp
  have hlt := hs i p c hc
  rcases hor with h1 | ⟨u, hu, hcu⟩
  · exact absurd h1 (Nat.not_le.mpr hlt)
  · exact ⟨u, hu, Nat.lt_of_lt_of_le hlt hcu⟩

/-- **Instances never share a partition.** -/
theorem no_partition_counted_twice (n lease : Nat) (inst : Nat → LInst) (hf : Fresh inst)
    (ls : List LLabel) (s : LSt) (hr : lrun n (initSt lease inst) ls = some s) (hs : Settled s)
    (i j p : Nat) (hi : p ∈ (s.inst i).held) (hj : p ∈ (s.inst j).held) : i = j := by
  obtain ⟨u, hu, _⟩ := counted_only_while_lease_valid n lease inst hf ls s hr hs i p hi
  obtain ⟨u', hu', _⟩ := counted_only_while_lease_valid n lease inst hf ls s hr hs j p hj
  rw [hu] at hu'
  cases hu'
  rfl

/-- The lease is counted conservatively, from the moment the request was issued: every expiry timer is set to
`issuedAt + lease`, never later (the grant of a slow call that comes back after that instant is not counted at all). -/
theorem counted_from_issue (n : Nat) (s s' : LSt) (i : Nat) (h : lstep n s (.ret i) = some s') (cl : LCall)
    (hc : (s.inst i).call = some cl) :
    (s'.inst i).timers = (s.inst i).timers ∨ (s'.inst i).timers = (s.inst i).timers ++ [(cl.part, cl.issuedAt + s.lease)] := by
  cases LStep.of_lstep h with
  | inst _ hs =>
    cases hs with
    | retDrop => simp only [updI_same, true_or]
    | retGrant cl' _ hc' => cases hc.symm.trans hc'; simp only [updI_same, afterGrant, or_true]

theorem nodup_lt_length (l : List Nat) (P : Nat) (hn : l.Nodup) (hl : ∀ x ∈ l, x < P) : l.length ≤ P :=
  List.length_range (n := P) ▸ hn.length_le_of_subset fun x hx => List.mem_range.mpr (hl x hx)

/-- For any set of instances, the partitions they count are pairwise different, so together they count at most
as many partitions as exist (`P`): the sum of their shared capacity never exceeds partitions × factor. -/
theorem total_held_le_partitions (n lease : Nat) (inst : Nat → LInst) (hf : Fresh inst)
    (ls : List LLabel) (s : LSt) (hr : lrun n (initSt lease inst) ls = some s) (hs : Settled s)
    (P : Nat) (is : List Nat) (hnd : is.Nodup)
    (hheld : ∀ i ∈ is, (s.inst i).held.Nodup ∧ ∀ p ∈ (s.inst i).held, p < P) :
    ((is.map fun i => (s.inst i).held.length).sum) ≤ P := by
  rw [← List.length_flatMap]
  refine nodup_lt_length _ P (List.pairwise_flatMap.mpr ⟨fun i hi => (hheld i hi).1, hnd.imp ?_⟩) fun x hx => ?_
  · -- two different instances count different partitions
    intro a b hab x hx y hy e
    exact hab (no_partition_counted_twice n lease inst hf ls s hr hs a b x hx (e ▸ hy))
  · obtain ⟨j, hj, hxj⟩ := List.mem_flatMap.mp hx
    exact (hheld j hj).2 x hxj

-- non-vacuity: two instances, one partition; the second is refused while the first holds the lease, and gets it after expiry
private def i0 : LInst := { LInst.init .v2 1 0 1 with target := 1 }
private def cfg2 : Nat → LInst := fun _ => i0
example : Fresh cfg2 := by intro i; simp [cfg2, i0, LInst.init]
example : ∃ s, lrun 2 (initSt 15 cfg2) [.start 0 true, .start 1 true, .provision 0, .provision 1, .issue 0 0, .proc 0 true,
    .advance 2, .ret 0, .issue 1 0, .proc 1 true, .ret 1, .advance 13, .expire 0 0 15, .issue 1 0, .proc 1 true, .ret 1] = some s
    ∧ (s.inst 0).held = [] ∧ (s.inst 1).held = [0] ∧ s.store 0 = some (1, 30) := by
  refine ⟨_, rfl, ?_, ?_, ?_⟩ <;> decide

end GoBatcher.C04
