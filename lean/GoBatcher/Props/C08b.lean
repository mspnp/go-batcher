import GoBatcher.Lemmas.BatcherLoop
/-!
# C08 (machine level) — a manual Flush() starts a cycle as soon as the loop is free; calls coalesce
-/
namespace GoBatcher.C08b

/-- Flush() always leaves a request pending (several calls while one is pending coalesce into it) -/
theorem flush_call_requests (c : BCfg) (s : St) :
    step c s .flushCall = some { s with flushReq := true, flushCalls := s.flushCalls + 1 } := rfl

/-- … an idle loop can start the cycle at once (the limiter's Capacity() read gives the allowance `a`) … -/
theorem cycle_enabled_when_idle (c : BCfg) (s : St) (a : Nat) (hl : s.loop = .idle) (hf : s.flushReq = true) :
    (step c s (.cycleBegin a)).isSome := by
  simp [step, hl, hf]

/-- … and must: time cannot pass while an idle loop has a flush request pending. During a pause the request
stays pending (nothing consumes it) and the same applies from the instant of the resume. -/
theorem flush_request_is_urgent (s : St) (dt : Nat) (h : canAdvance s dt = true) (hl : s.loop = .idle) :
    s.flushReq = false := (idle_time_passes_only_when_nothing_ready s dt h hl).2.2.2.2.2

theorem pause_keeps_flush_request (c : BCfg) (s s' : St) (l : Label) (hl : l = .takePause ∨ l = .wake)
    (h : step c s l = some s') : s'.flushReq = s.flushReq := by
  rcases hl with rfl | rfl <;> cases Step.of_step h <;> rfl

/-- a cycle always runs to its end without time passing (work happens at one instant) -/
theorem cycle_completes_in_zero_time (s : St) (dt : Nat) (h : canAdvance s dt = true) :
    (∀ a acc, s.loop ≠ .cycle a acc) ∧ (∀ acc, s.loop ≠ .sweep acc) := by
  have := (canAdvance_spec h).loop
  exact ⟨fun a acc hl => by rw [hl] at this; exact this, fun acc hl => by rw [hl] at this; exact this⟩

end GoBatcher.C08b
