import GoBatcher.Lemmas.LeaseMgr
/-!
# C18 — A lease is reported only when storage confirmed it; every error is handled

Model: M-LeaseMgr. The theorems quantify over EVERY error value (any service-code string, known to the SDK or
not, and non-storage errors), every partition index and every sequence of per-blob outcomes of any length.
The list of SDK codes, the case lists of the switches and the request parameters (15 s, If-None-Match *, blob
name = index) are regenerated facts / observed by the fault enumeration and the loopback run.
-/
namespace GoBatcher.C18

/-- a lease (of the 15 s asked for) is reported iff the acquire call succeeded -/
theorem lease_reported_iff_confirmed (index : Nat) (e : SdkErr) :
    ((leaseOutcome index e).1 = leaseSeconds ↔ e = .none) ∧ ((leaseOutcome index e).1 = 0 ∨ (leaseOutcome index e).1 = leaseSeconds) := by
  unfold leaseOutcome leaseSeconds
  split <;> simp

/-- on failure: a `failed` event for lease-already-present, an `error` event for everything else; none on success -/
theorem lease_failure_events (index : Nat) (e : SdkErr) :
    ((leaseOutcome index e).2 = [.failed index] ↔ e = .storage "LeaseAlreadyPresent") ∧
    ((leaseOutcome index e).2 = [.error] ↔ (e ≠ .none ∧ e ≠ .storage "LeaseAlreadyPresent")) ∧
    ((leaseOutcome index e).2 = [] ↔ e = .none) := by
  unfold leaseOutcome
  split <;> simp_all

/-- provisioning the container succeeds only for success and container-already-exists -/
theorem provision_success_iff (e : SdkErr) :
    (provisionOutcome e).1 = false ↔ (e = .none ∨ e = .storage "ContainerAlreadyExists") := by
  unfold provisionOutcome
  split <;> simp_all

/-- a blob counts as present only for success, blob-already-exists and blob-leased (LeaseIdMissing) -/
theorem blob_ok_iff (e : SdkErr) :
    blobOutcome e ≠ .err ↔ (e = .none ∨ e = .storage "BlobAlreadyExists" ∨ e = .storage "LeaseIdMissing") := by
  unfold blobOutcome
  split <;> simp_all

/-- v1: the run returns an error iff some blob upload failed otherwise, and it stops at the FIRST such blob
(blobs 0..k attempted, exactly k created/verified events before it), for any number of blobs and any position -/
theorem v1_stops_at_first_error (results : List SdkErr) (i : Nat) :
    let r := createV1 results i
    (r.1 = true ↔ ∃ e ∈ results, blobOutcome e = .err) ∧
    r.2.2 = (results.takeWhile (fun e => blobOutcome e != .err)).length + (if r.1 then 1 else 0) ∧
    r.2.1.length = (results.takeWhile (fun e => blobOutcome e != .err)).length := by
  induction results generalizing i with
  | nil => exact ⟨⟨nofun, nofun⟩, rfl, rfl⟩
  | cons e rest ih =>
    obtain ⟨h1, h2, h3⟩ := ih (i + 1)
    cases hb : blobOutcome e with
    | err =>
      -- the run ends here: one blob attempted, no event, nothing taken by `takeWhile`
      simp only [createV1, hb, List.takeWhile_cons, bne_self_eq_false]
      exact ⟨⟨fun _ => ⟨e, List.mem_cons_self, hb⟩, fun _ => trivial⟩, rfl, rfl⟩
    | created | verified =>
      simp only [createV1, hb, List.takeWhile_cons, List.mem_cons, exists_eq_or_imp, reduceCtorEq, false_or, List.length_cons,
        bne_iff_ne, ne_eq, not_false_eq_true, if_true]
      exact ⟨h1, by rw [h2, Nat.add_right_comm], by rw [h3]⟩

/-- v2: every blob 0..n-1 is attempted whatever fails, and each failure raises exactly one error event -/
theorem v2_attempts_all (results : List SdkErr) (i : Nat) :
    (createV2 results i).2 = results.length ∧ (createV2 results i).1.length = results.length ∧
    ((createV2 results i).1.filter (· == .error)).length = (results.filter (fun e => blobOutcome e == .err)).length := by
  induction results generalizing i with
  | nil => exact ⟨rfl, rfl, rfl⟩
  | cons e rest ih =>
    obtain ⟨h1, h2, h3⟩ := ih (i + 1)
    rw [createV2_cons]
    refine ⟨congrArg (· + 1) h1, congrArg (· + 1) h2, ?_⟩
    rw [List.filter_cons, List.filter_cons]
    cases hb : blobOutcome e <;> simp [blobEvent, hb, h3]

/-- blob `i` of the run is the `i`-th one: events carry the blob's own index -/
theorem v2_event_indexes (results : List SdkErr) (i : Nat) :
    ∀ k, (h : k < results.length) →
      ((createV2 results i).1[k]? = some (.createdBlob (i + k)) ∨ (createV2 results i).1[k]? = some (.verifiedBlob (i + k)) ∨
       (createV2 results i).1[k]? = some .error) := by
  induction results generalizing i with
  | nil => exact fun k h => nomatch h
  | cons e rest ih =>
    intro k h
    rw [createV2_cons]
    cases k with
    | zero => cases hb : blobOutcome e <;> simp [blobEvent, hb]
    | succ j =>
      rw [List.getElem?_cons_succ, show i + (j + 1) = i + 1 + j by omega]
      exact ih (i + 1) j (Nat.lt_of_succ_lt_succ h)

example : createV1 [.none, .storage "BlobAlreadyExists", .storage "AuthenticationFailed", .none] =
    (true, [.createdBlob 0, .verifiedBlob 1], 3) := by decide +kernel
example : createV2 [.none, .other, .storage "LeaseIdMissing"] = ([.createdBlob 0, .error, .verifiedBlob 2], 3) := by decide +kernel
example : leaseOutcome 3 (.storage "LeaseAlreadyPresent") = (0, [.failed 3]) := by decide +kernel

end GoBatcher.C18
