import GoBatcher.Lemmas.LeaseReach
import GoBatcher.Props.C04
/-!
# C07 — Shared capacity is acquired only on demand and given back when demand falls

Model: M-Lease. All GiveMe histories, factors, reserves, grant / refusal outcomes and timings, any number of
instances, unbounded time.
-/
namespace GoBatcher.C07

/-- **A lease request is issued only below the target**, for an existing partition the instance is not counting. -/
theorem request_only_on_demand (n : Nat) (s s' : LSt) (i p : Nat) (h : lstep n s (.issue i p) = some s') :
    (s.inst i).held.length < (s.inst i).target ∧ p < (s.inst i).parts ∧ p ∉ (s.inst i).held := by
  cases LStep.of_lstep h with
  | inst _ hs => cases hs with | issue _ _ _ _ hd hp hh => exact ⟨hd, hp, hh⟩

/-- the target is what the most recent GiveMe required: the capacity asked above the reserve *at that time*,
divided by the factor, rounded up … -/
theorem giveMe_sets_target (n : Nat) (s s' : LSt) (i v : Nat) (h : lstep n s (.giveMe i v) = some s') :
    (s'.inst i).target = ceilDivN (v - (s.inst i).reserved) (s.inst i).factor := by
  cases LStep.of_lstep h with
  | inst _ hs => cases hs with | giveMe => exact congrArg LInst.target (updI_same ..)

/-- … and nothing but a GiveMe of that instance changes it -/
theorem target_kept (n : Nat) (s s' : LSt) (l : LLabel) (h : lstep n s l = some s') (i : Nat)
    (hl : ∀ v, l ≠ .giveMe i v) : (s'.inst i).target = (s.inst i).target := by
  rcases step_inst h i with e | ⟨_, _, hs, e⟩ <;> rw [e]
  induction hs with
  | giveMe v => exact absurd rfl (hl v)
  | _ => rfl

/-- a request at or below the reserve asks for no partition -/
theorem target_zero_of_le_reserve (x : LInst) (v : Nat) (hf : 0 < x.factor) (hv : v ≤ x.reserved) :
    neededPartitions x v = 0 := by
  unfold neededPartitions ceilDivN
  rw [Nat.sub_eq_zero_of_le hv, Nat.zero_add]
  exact Nat.div_eq_of_lt (Nat.sub_lt hf Nat.one_pos)

/-- **Never renewed.** In every reachable state, every counted partition has a pending expiry at most one lease
duration ahead; expiries are only ever *added* for a newly reported grant, at `issuedAt + lease` (`C04.counted_from_issue`),
so no hold outlives the lease duration that followed its report. -/
theorem never_renewed {n lease : Nat} {inst : Nat → LInst} (hc : Configured inst) {s : LSt}
    (h : LReach n lease inst s) (i p : Nat) (hp : p ∈ (s.inst i).held) :
    ∃ c, (p, c) ∈ (s.inst i).timers ∧ c ≤ s.now + s.lease := by
  obtain ⟨c, hm, _⟩ := (reach_excl hc h).hold i p hp
  exact ⟨c, hm, (reach_lwf hc h i).timerFresh p c hm⟩

/-- timers are never postponed: a step keeps each pending expiry as it is, or adds the one of the grant being reported -/
theorem timers_never_postponed (n : Nat) (s s' : LSt) (l : LLabel) (h : lstep n s l = some s') (i : Nat) (t : Nat × Nat)
    (ht : t ∈ (s'.inst i).timers) :
    t ∈ (s.inst i).timers ∨ (l = .ret i ∧ ∃ cl, (s.inst i).call = some cl ∧ t = (cl.part, cl.issuedAt + s.lease)) := by
  rcases step_inst h i with e | ⟨_, _, hs, e⟩ <;> rw [e] at ht
  · exact Or.inl ht
  · induction hs with
    | retGrant cl u hc =>
      exact (List.mem_append.mp ht).imp_right fun h1 => ⟨rfl, cl, hc, List.mem_singleton.mp h1⟩
    | expire => exact Or.inl (List.mem_of_mem_erase ht)
    | _ => exact Or.inl ht

/-- instance `i` has no demand, and everything it holds or may still be granted ends by `T` -/
structure Quiet (T : Nat) (s : LSt) (i : Nat) : Prop where
  target : (s.inst i).target = 0
  timers : ∀ p c, (p, c) ∈ (s.inst i).timers → c ≤ T
  call : ∀ cl, (s.inst i).call = some cl → cl.issuedAt + s.lease ≤ T

theorem step_quiet (n : Nat) (s s' : LSt) (l : LLabel) (h : lstep n s l = some s') (i T : Nat)
    (hl : ∀ v, l ≠ .giveMe i v) (hq : Quiet T s i) : Quiet T s' i := by
  refine ⟨(target_kept n s s' l h i hl).trans hq.target, ?_, ?_⟩
  · intro p c hm
    rcases timers_never_postponed n s s' l h i (p, c) hm with h1 | ⟨_, cl, hcl, he⟩
    · exact hq.timers p c h1
    · cases he; exact hq.call cl hcl
  · intro cl hcl
    rw [step_lease n s s' l h]
    rcases step_inst h i with e | ⟨_, _, hs, e⟩ <;> rw [e] at hcl
    · exact hq.call cl hcl
    · induction hs with
      | issue p _ _ _ hd => rw [hq.target] at hd; cases hd
      | grant cl0 hc | refuse _ cl0 hc => cases hcl; exact hq.call cl0 hc
      | retDrop | retGrant => cases hcl
      | _ => exact hq.call cl hcl

theorem run_quiet (n : Nat) (i T : Nat) (ls : List LLabel) (s s' : LSt) (h : lrun n s ls = some s')
    (hl : ∀ l ∈ ls, ∀ v, l ≠ .giveMe i v) : Quiet T s i → Quiet T s' i :=
  lrun_induct h fun l hm s s' hs => step_quiet n s s' l hs i T (hl l hm)

/-- **Capacity decays to the reserve within one lease duration.** Once the requested capacity is at or below the
reserve (target 0 in state `s0`), and for as long as no new GiveMe arrives: the instance issues no further lease
request, and every settled state at least one lease duration later counts no partition at all. -/
theorem decays_to_reserve {n lease : Nat} {inst : Nat → LInst} (hc : Configured inst) {s0 : LSt}
    (h0 : LReach n lease inst s0) (i : Nat) (ht : (s0.inst i).target = 0)
    (ls : List LLabel) (s : LSt) (hr : lrun n s0 ls = some s) (hl : ∀ l ∈ ls, ∀ v, l ≠ .giveMe i v) :
    (∀ p, lstep n s (.issue i p) = none) ∧
    (s0.now + s0.lease ≤ s.now → C04.Settled s → (s.inst i).held = [] ∧ (s.inst i).capacity = (s.inst i).reserved) := by
  have hq0 : Quiet (s0.now + s0.lease) s0 i :=
    ⟨ht, (reach_lwf hc h0 i).timerFresh, fun cl hcl => Nat.add_le_add_right ((reach_lwf hc h0 i).callOK cl hcl).2.2 _⟩
  have hq := run_quiet n i _ ls s0 s hr hl hq0
  refine ⟨fun p => Option.eq_none_iff_forall_ne_some.mpr fun s1 hst => ?_, fun hlate hset => ?_⟩
  · have := (request_only_on_demand n s s1 i p hst).1
    rw [hq.target] at this
    cases this
  · -- a counted partition would have a timer that is due (`Quiet`) and has not fired (`Settled`)
    have hnil : (s.inst i).held = [] := List.eq_nil_iff_forall_not_mem.mpr fun p hp => by
      obtain ⟨c, hm, _⟩ := (reach_excl hc (reach_run h0 ls hr)).hold i p hp
      exact Nat.lt_irrefl _ (Nat.lt_of_lt_of_le (hset i p c hm) (Nat.le_trans (hq.timers p c hm) hlate))
    exact ⟨hnil, by rw [LInst.capacity, hnil]; rfl⟩

-- non-vacuity: demand raised, a partition acquired, demand dropped, 15 s later the partition is gone and no request is enabled
example : ∃ s, lrun 1 (initSt 15 (fun _ => LInst.init .v2 5 7 12))
    [.start 0 true, .provision 0, .giveMe 0 20, .issue 0 2, .proc 0 true, .ret 0, .giveMe 0 7, .advance 15, .expire 0 2 15] = some s ∧
    (s.inst 0).capacity = 7 ∧ lstep 1 s (.issue 0 1) = none := ⟨_, rfl, by decide, by decide⟩

end GoBatcher.C07
