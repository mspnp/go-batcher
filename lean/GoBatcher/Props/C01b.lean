import GoBatcher.Lemmas.BatcherAcct
import GoBatcher.Lemmas.BatcherSlots
/-!
# C01 (machine level) — every accepted operation is delivered exactly once, to its own watcher

History invariant over M-Batcher, for every label sequence (concurrent enqueuers, ticks, manual flushes,
pauses, capacity profiles, slot limits, the same operation enqueued several times, shutdown):

    inserted (= accepted: the call returned nil)  =  buffered ⊎ open batches of the running cycle ⊎ all raised batches ⊎ discarded at shutdown

as multisets of operation occurrences (`count`), so an accepted operation is at all times either still buffered
or in exactly one batch (or discarded by a shutdown), never in two and never lost; an Enqueue that returns an
error never enters `inserted`. Costs are constant (`setCost` excluded: it rewrites cost fields, not identities).
-/
namespace GoBatcher.C01b

def cntR (x : Op) (l : List RBatch) : Nat := ((l.map (fun b => b.ops.count x))).sum

def cntOpen (x : Op) (s : St) : Nat :=
  match s.loop with
  | .cycle _ acc => cntB x acc.openB
  | .sweep acc => cntB x acc.openB
  | _ => 0

def Conserved (s : St) : Prop :=
  ∀ x, s.inserted.count x = s.bm.buf.items.count x + cntOpen x s + cntR x s.batches + s.discarded.count x

theorem cntR_append (x : Op) (l₁ l₂ : List RBatch) : cntR x (l₁ ++ l₂) = cntR x l₁ + cntR x l₂ := by
  simp [cntR]

theorem raise_cntR (c : BCfg) (s : St) (p : Batch) (x : Op) : cntR x (raise c s p).batches = cntR x s.batches + p.2.count x := by
  rcases raise_cases c s p with ⟨he, hr⟩ | hr <;> rw [hr]
  · rw [he]; rfl
  · simp [cntR]

theorem cntR_map (x : Op) (l : List RBatch) (f : RBatch → RBatch) (hf : ∀ y, (f y).ops = y.ops) :
    cntR x (l.map f) = cntR x l := by
  unfold cntR; rw [List.map_map]
  congr 1
  apply List.map_congr_left
  intro y _; simp [hf]

theorem cntOpen_of_loop {s s' : St} (h : s'.loop = s.loop) (x : Op) : cntOpen x s' = cntOpen x s := by
  unfold cntOpen; rw [h]

theorem cntOpen_eq (x : Op) (s : St) : cntOpen x s = cntB x s.openB := by
  unfold cntOpen St.openB; cases s.loop <;> rfl

theorem conserved_congr (s s' : St) (h1 : s'.inserted = s.inserted) (h2 : s'.bm.buf.items = s.bm.buf.items)
    (h3 : s'.openB = s.openB) (h4 : ∀ x, cntR x s'.batches = cntR x s.batches)
    (h5 : s'.discarded = s.discarded) (h : Conserved s) : Conserved s' := by
  intro x
  rw [h1, h2, cntOpen_eq, h3, ← cntOpen_eq, h4 x, h5]
  exact h x

theorem enqOk_conserved (s : St) (k : Nat) (op : Op) (hi : Conserved s) : Conserved (enqOk s k op) := by
  intro x
  have := hi x
  rw [show cntOpen x (enqOk s k op) = cntOpen x s from rfl]
  simp only [enqOk, List.count_append]
  omega

theorem unwake_conserved (s : St) (w : Nat × Op) (hi : Conserved s) : Conserved (unwake s w) :=
  conserved_congr s _ rfl rfl rfl (fun _ => rfl) rfl hi

/-- The open batches are read through `St.openB` (`cntOpen_eq`), so that `Step.openB_eq` says what becomes of them. -/
theorem step_conserved (c : BCfg) (s s' : St) (l : Label) (h : step c s l = some s')
    (hl : ∀ o k, l ≠ .setCost o k) (hst : StartOK s) (hi : Conserved s) : Conserved s' := by
  have hs := Step.of_step h
  have ho := hs.openB_eq hst
  have hi' (x : Op) := cntOpen_eq x s ▸ hi x
  induction hs with
  | setCost o k => exact absurd rfl (hl o k)
  | insOk => exact enqOk_conserved s _ _ hi
  | admitOk => exact enqOk_conserved _ _ _ (unwake_conserved s _ hi)
  | takeStopV2 =>
    intro x
    have := hi' x
    rw [cntOpen_eq, ho, shutdownV2_buf]
    simp only [shutdownV2, Buf.shutdown, List.count_nil, List.count_append]
    omega
  | cycleSkip => exact conserved_congr s _ rfl (Buf.skip_items _) rfl (fun _ => rfl) rfl hi
  | @cycleTake allow acc acc' i op slot hloop _ hop hstep | @cycleRaise allow acc acc' i op _ slot hloop _ hop hstep =>
    intro x
    have h1 := stepOp_conserve _ _ _ _ x hstep
    have h2 := afterTake_count c s i allow acc' slot hop x
    have := hi' x
    rw [St.openB_cycle hloop] at this
    simp only [cntOpen, optCnt, raise_cntR] at h1 ⊢
    omega
  | @sweepOne acc w b hloop hb =>
    intro x
    have he := cntB_eraseB x w acc.openB
    rw [(lookupB_eq_some hb).1] at he
    have := hi' x
    rw [St.openB_sweep hloop] at this
    simp only [cntOpen, raise_cntR]
    omega
  | cbReturn | finish =>
    exact conserved_congr s _ rfl rfl ho (fun x => cntR_map x _ _ (fun y => by split <;> rfl)) rfl hi
  | _ => exact conserved_congr s _ rfl rfl ho (fun _ => rfl) rfl hi

def noSetCost (_ : St) : Label → Prop
  | .setCost _ _ => False
  | _ => True

/-- **Exactly once.** In every state reachable with constant costs, every operation occurrence that was accepted
is in exactly one place: buffered, in an open batch of the running cycle, in one raised batch, or discarded by
the shutdown. -/
theorem accepted_is_in_exactly_one_place (c : BCfg) : ∀ (ls : List Label) (s s' : St), run c s ls = some s' →
    AllSteps c noSetCost s ls → Inv c s → Conserved s → Conserved s' :=
  fun ls s s' h ha hi hc =>
    (run_induct_steps (P := fun s => Inv c s ∧ Conserved s)
      (fun s s' l h hq ⟨hi, hc⟩ => ⟨step_inv c s s' l h hi,
        step_conserved c s s' l h (fun o k e => by subst e; exact hq) hi.start hc⟩) ls s s' h ha ⟨hi, hc⟩).2

theorem conserved_init (c : BCfg) : Conserved (St.init c) := by
  intro x; simp [St.init, BufM.new, Buf.new, cntOpen, cntR]

/-- An Enqueue that returns an error never leads to a delivery: only `enqOk` (the call returns nil) adds to `inserted`. -/
theorem refused_is_never_inserted (s : St) (k : Nat) (op : Op) (r : EnqRes) (tb : Bool) :
    (enqRefuse s k op r tb).inserted = s.inserted ∧ (enqBlock s k op).inserted = s.inserted := ⟨rfl, rfl⟩

/-! ### never another Watcher's -/

def OwnOK (s : St) : Prop :=
  (∀ b ∈ s.batches, ∀ o ∈ b.ops, o.w = b.w) ∧
  (match s.loop with
   | .cycle _ acc => ∀ p ∈ acc.openB, ∀ o ∈ p.2, o.w = p.1
   | .sweep acc => ∀ p ∈ acc.openB, ∀ o ∈ p.2, o.w = p.1
   | _ => True)

theorem reCost_w (o k : Nat) (x : Op) : (reCost o k x).w = x.w := by unfold reCost; split <;> rfl

theorem ownOK_iff (s : St) :
    OwnOK s ↔ (∀ b ∈ s.batches, ∀ o ∈ b.ops, o.w = b.w) ∧ ∀ p ∈ s.openB, ∀ o ∈ p.2, o.w = p.1 := by
  unfold OwnOK St.openB
  cases s.loop with
  | cycle | sweep => exact .rfl
  | _ => exact and_congr_right fun _ => ⟨fun _ => nofun, fun _ => trivial⟩

/-- an instance of `step_batches_all`: a batch of watcher `op.w`'s operations with `op` added is one -/
theorem step_ownOK (c : BCfg) (s s' : St) (l : Label) (h : step c s l = some s') (hl : ∀ o k, l ≠ .setCost o k)
    (hi : OwnOK s) : OwnOK s' := by
  rw [ownOK_iff] at *
  have grows (op : Op) (b : List Op) (hb : b = [] ∨ ∀ o ∈ b, o.w = op.w) : ∀ o ∈ b ++ [op], o.w = op.w := by
    intro o ho
    rcases List.mem_append.mp ho with ho | ho
    · exact hb.elim (fun e => by simp [e] at ho) (· o ho)
    · rw [List.mem_singleton.mp ho]
  have := step_batches_all (P := fun p => ∀ o ∈ p.2, o.w = p.1) grows (fun o k e => absurd e (hl o k)) h hi.2
  exact ⟨this.2 hi.1, this.1⟩

end GoBatcher.C01b
