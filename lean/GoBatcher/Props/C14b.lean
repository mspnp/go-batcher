import GoBatcher.Lemmas.BatcherStep
/-!
# C14 (machine level) — rejections have no side effects; each delivery increments Attempt() by exactly one

`attempts s obj` = number of times operation object `obj` has been handed to a watcher so far = the number of
`MakeAttempt()` calls (the batch goroutine calls it once per operation of the batch before the callback).
-/
namespace GoBatcher.C14b

def attempts (s : St) (obj : Nat) : Nat := ((s.batches.map (fun b => (b.ops.filter (·.obj == obj)).length))).sum

/-- A rejected Enqueue (missing operation, missing Watcher, too expensive, too many attempts) changes nothing. -/
theorem rejection_has_no_side_effect (c : BCfg) (s : St) (k : Nat) (e : Err) : step c s (.enqReject k e) = some s := rfl

theorem attempts_congr {s s' : St} (obj : Nat) (h : s'.batches = s.batches) : attempts s' obj = attempts s obj := by
  unfold attempts; rw [h]

theorem attempts_map {s s' : St} (obj : Nat) (f : RBatch → RBatch)
    (hf : ∀ x, ((f x).ops.filter (·.obj == obj)).length = (x.ops.filter (·.obj == obj)).length)
    (h : s'.batches = s.batches.map f) : attempts s' obj = attempts s obj := by
  unfold attempts; rw [h, List.map_map]
  congr 1
  apply List.map_congr_left
  intro x _
  exact hf x

/-- raising a batch is the delivery: each operation occurrence in it counts once -/
theorem raise_attempts (c : BCfg) (s : St) (p : Batch) (obj : Nat) :
    attempts (raise c s p) obj = attempts s obj + (p.2.filter (·.obj == obj)).length := by
  rcases raise_cases c s p with ⟨he, hr⟩ | hr <;> rw [hr]
  · rw [he]; rfl
  · simp [attempts]

theorem reCost_obj (obj cost : Nat) (o : Op) : (reCost obj cost o).obj = o.obj := by
  unfold reCost; split <;> rfl

/-- nothing but a delivery changes the attempt count -/
theorem only_delivery_counts (c : BCfg) (s s' : St) (l : Label) (h : step c s l = some s')
    (hl : l ≠ .cycleStep ∧ ∀ w, l ≠ .sweepOne w) (obj : Nat) : attempts s' obj = attempts s obj := by
  induction Step.of_step h with
  | cycleSkip | cycleTake | cycleRaise => exact absurd rfl hl.1
  | sweepOne => exact absurd rfl (hl.2 _)
  | cbReturn | finish => exact attempts_map obj _ (fun x => by split <;> rfl) rfl
  | setCost o cst =>
    refine attempts_map obj (fun b => { b with ops := b.ops.map (reCost o cst) }) (fun x => ?_) rfl
    simp only [List.filter_map, List.length_map]
    exact congrArg _ (List.filter_congr fun y _ => by simp [reCost_obj])
  | _ => rfl

/-- a cycle step that raises a batch delivers exactly that batch -/
theorem sweep_delivers (c : BCfg) (s s' : St) (w : Nat) (h : step c s (.sweepOne w) = some s') (obj : Nat) :
    ∃ b : List Op, attempts s' obj = attempts s obj + (b.filter (·.obj == obj)).length := by
  cases Step.of_step h with
  | @sweepOne _ _ b => exact ⟨b, raise_attempts c s (w, b) obj⟩

-- non-vacuity: the same object enqueued twice and delivered in one batch: two attempts
private def cfg : BCfg :=
  { gen := .v2, bufCap := 4, limited := false, flushInt := 100, capInt := 1000, auditInt := 1000, mot := 50, pause := 5,
    errorOnFull := false, mcb := 0, wMaxBatch := fun _ => 0, wMot := fun _ => 0, rollback := true, wos := true }
private def o (k : Nat) : Op := { id := k, obj := 9, w := 0, cost := 1, batchable := true }
example : ∃ s, run cfg (St.init cfg) [.startCall, .enqCount 1 (o 1), .enqInsert 1, .enqCount 2 (o 2), .enqInsert 2, .advance 100,
    .fireF, .takeFlushTick, .cycleBegin 0, .cycleStep, .cycleStep, .scanEnd, .sweepOne 0, .cycleEnd] = some s ∧ attempts s 9 = 2 :=
  ⟨_, rfl, by decide⟩

end GoBatcher.C14b
