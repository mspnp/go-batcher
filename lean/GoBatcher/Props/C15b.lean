import GoBatcher.Lemmas.BufferLinked
/-!
C15 (linked representation): the v2 buffer AS THE CODE HAS IT — a doubly linked list on a heap with head / tail /
cursor pointers and a separate length counter (`Model/BufferLinked.lean`, transcribed statement by statement from
/repo/v2/buffer.go) — refines the list-with-cursor model that the blocked-caller machine and the Batcher machine
use (`Model/Buffer.lean`):

* for EVERY sequence of buffer operations, of any length, starting from `newBuffer(cap)`, the linked buffer
  returns exactly what the list model returns, operation by operation;
* it never panics: neither `panic("removing from empty buffer ...")`, nor `panic("a buffer tail was not found")`,
  nor a nil-pointer dereference is reachable;
* its `len` field always equals the number of linked nodes and never exceeds `cap` (the list model's bound, `buf_run_bounded`).
-/
namespace GoBatcher

inductive BOp where
  | top | skip | remove
  | enqueue (op : Op) (errorOnFull : Bool)
  | shutdown
  | size
deriving Repr, DecidableEq

inductive BOut where
  | op (o : Option Op)
  | enq (r : EnqRes)
  | unit
  | size (n : Nat)
deriving Repr, DecidableEq

def Buf.apply (a : Buf) : BOp → Buf × BOut
  | .top => (a.top.1, .op a.top.2)
  | .skip => (a.skip.1, .op a.skip.2)
  | .remove => (a.remove.1, .op a.remove.2)
  | .enqueue op eof => ((a.enqueue op eof).1, .enq (a.enqueue op eof).2)
  | .shutdown => (a.shutdown, .unit)
  | .size => (a, .size a.size)

/-- `none` = the Go code panics -/
def LBuf.apply (b : LBuf) : BOp → Option (LBuf × BOut)
  | .top => b.top.map (fun r => (r.1, .op r.2))
  | .skip => b.skip.map (fun r => (r.1, .op r.2))
  | .remove => b.remove.map (fun r => (r.1, .op r.2))
  | .enqueue op eof => (b.enqueue op eof).map (fun r => (r.1, .enq r.2))
  | .shutdown => some (b.shutdown, .unit)
  | .size => some (b, .size b.size)

def Buf.runOps : Buf → List BOp → Buf × List BOut
  | a, [] => (a, [])
  | a, o :: os => let r := a.apply o; let rest := Buf.runOps r.1 os; (rest.1, r.2 :: rest.2)

def LBuf.runOps : LBuf → List BOp → Option (LBuf × List BOut)
  | b, [] => some (b, [])
  | b, o :: os => (b.apply o).bind fun r => (LBuf.runOps r.1 os).map fun rest => (rest.1, r.2 :: rest.2)

/-- one operation: same result, representation kept, no panic -/
theorem C15_L0_step_refines {b : LBuf} {ns : List (Nat × Op)} {a : Buf} (h : Rep b ns a) (o : BOp) :
    ∃ b' ns', b.apply o = some (b', (a.apply o).2) ∧ Rep b' ns' (a.apply o).1 := by
  cases o with
  | top => obtain ⟨b', h1, h2⟩ := top_refines h; exact ⟨b', ns, by simp [LBuf.apply, Buf.apply, h1], h2⟩
  | skip => obtain ⟨b', h1, h2⟩ := skip_refines h; exact ⟨b', ns, by simp [LBuf.apply, Buf.apply, h1], h2⟩
  | remove => obtain ⟨b', ns', h1, h2⟩ := remove_refines h; exact ⟨b', ns', by simp [LBuf.apply, Buf.apply, h1], h2⟩
  | enqueue op eof =>
    obtain ⟨b', ns', h1, h2⟩ := enqueue_refines h op eof
    exact ⟨b', ns', by simp [LBuf.apply, Buf.apply, h1], h2⟩
  | shutdown => exact ⟨b.shutdown, [], rfl, shutdown_refines h⟩
  | size => exact ⟨b, ns, by simp [LBuf.apply, Buf.apply, LBuf.size, Buf.size, h.len, h.items_len], h⟩

/-- any sequence of operations, from any represented state -/
theorem C15_L0_run_refines : ∀ (os : List BOp) {b : LBuf} {ns : List (Nat × Op)} {a : Buf}, Rep b ns a →
    ∃ b' ns', LBuf.runOps b os = some (b', (Buf.runOps a os).2) ∧ Rep b' ns' (Buf.runOps a os).1
  | [], b, ns, a, h => ⟨b, ns, rfl, h⟩
  | o :: os, b, ns, a, h => by
    obtain ⟨b1, ns1, e1, h1⟩ := C15_L0_step_refines h o
    obtain ⟨b2, ns2, e2, h2⟩ := C15_L0_run_refines os h1
    exact ⟨b2, ns2, by simp [LBuf.runOps, Buf.runOps, e1, e2], h2⟩

/-- C15 / C01 / C08 (linked list): from `newBuffer(cap)`, every operation sequence returns what the list model returns -/
theorem C15_L0_refines_L1 (cap : Nat) (os : List BOp) :
    (LBuf.runOps (LBuf.new cap) os).map (·.2) = some (Buf.runOps (Buf.new cap) os).2 := by
  obtain ⟨b', ns', e, _⟩ := C15_L0_run_refines os (rep_new cap)
  rw [e]; rfl

/-- … and never panics (explicit panics and nil dereferences are all `none`) -/
theorem C15_L0_never_panics (cap : Nat) (os : List BOp) : (LBuf.runOps (LBuf.new cap) os).isSome = true := by
  obtain ⟨b', ns', e, _⟩ := C15_L0_run_refines os (rep_new cap)
  rw [e]; rfl

/-- the list model never holds more than `cap` operations -/
theorem buf_apply_bounded (a : Buf) (o : BOp) (h : a.items.length ≤ a.cap) :
    (a.apply o).1.items.length ≤ (a.apply o).1.cap ∧ (a.apply o).1.cap = a.cap := by
  cases o with
  | top => simp only [Buf.apply]; fun_cases Buf.top a <;> exact ⟨h, rfl⟩
  | skip => simp only [Buf.apply]; fun_cases Buf.skip a <;> exact ⟨h, rfl⟩
  | remove =>
    simp only [Buf.apply]
    fun_cases Buf.remove a
    case case1 => exact ⟨h, rfl⟩
    all_goals exact ⟨Nat.le_trans (List.length_eraseIdx_le ..) h, rfl⟩
  | enqueue op eof =>
    simp only [Buf.apply]
    fun_cases Buf.enqueue a op eof
    case case3 _ hf => exact ⟨List.length_append ▸ Nat.not_le.mp hf, rfl⟩
    all_goals exact ⟨h, rfl⟩
  | shutdown => exact ⟨Nat.zero_le _, rfl⟩
  | size => exact ⟨h, rfl⟩

theorem buf_run_bounded : ∀ (os : List BOp) (a : Buf), a.items.length ≤ a.cap →
    (Buf.runOps a os).1.items.length ≤ a.cap ∧ (Buf.runOps a os).1.cap = a.cap
  | [], _, h => ⟨h, rfl⟩
  | o :: os, a, h => by
    have h1 := buf_apply_bounded a o h
    have h2 := buf_run_bounded os (a.apply o).1 h1.1
    rw [h1.2] at h2; exact h2

/-- C15 (linked list): the `len` field (what `OperationsInBuffer()` returns) counts the linked nodes and never exceeds
the configured size, after every operation sequence -/
theorem C15_L0_len_bounded (cap : Nat) (os : List BOp) :
    ∃ b, LBuf.runOps (LBuf.new cap) os = some (b, (Buf.runOps (Buf.new cap) os).2) ∧ b.len ≤ cap ∧ b.cap = cap ∧
      b.len = (Buf.runOps (Buf.new cap) os).1.items.length := by
  obtain ⟨b', ns', e, hr⟩ := C15_L0_run_refines os (rep_new cap)
  have hb := buf_run_bounded os (Buf.new cap) (by simp [Buf.new])
  refine ⟨b', e, ?_, ?_, ?_⟩
  · rw [hr.len, ← hr.items_len]; exact hb.1
  · rw [hr.cap]; exact hb.2
  · rw [hr.len, ← hr.items_len]

/-- non-vacuity: a concrete run through all four `remove` cases and both `enqueue` cases -/
example :
    let o1 : Op := { id := 1, obj := 1, w := 0, cost := 1, batchable := true }
    let o2 : Op := { id := 2, obj := 2, w := 0, cost := 1, batchable := true }
    let o3 : Op := { id := 3, obj := 3, w := 0, cost := 1, batchable := true }
    (LBuf.runOps (LBuf.new 3) [.enqueue o1 false, .enqueue o2 false, .enqueue o3 false, .enqueue o1 true,
        .top, .skip, .remove, .remove, .top, .remove, .size, .remove, .enqueue o2 false, .top]).map (·.2) =
      some [.enq .ok, .enq .ok, .enq .ok, .enq .full, .op (some o1), .op (some o2), .op (some o3), .op none,
            .op (some o1), .op none, .size 0, .op none, .enq .ok, .op (some o2)] := by decide

end GoBatcher
