import GoBatcher.Lemmas.Cycle
/-!
# C02 — Per-cycle rate limit (cycle level)

`A = c.allow` is the allowance the cycle read once at its start (`uint32(float64(Capacity())/1000.0 *
float64(FlushInterval.Milliseconds()))`; the float conversion is executed natively by the driver and tested,
not proved). Capacity may change arbitrarily between cycles and differ from MaxCapacity: nothing here
depends on either. The tick / Flush() counting clause is `C02b` (Batcher machine).
-/
namespace GoBatcher.C02

/-- An operation is released only while the cost already released in this cycle is below the allowance
(v2, `ge = true`) / not above it (v1). -/
theorem released_only_below_allowance (c : Cfg) (a : Acc) (av : Bool) (op : Op)
    {a' : Acc} {out : Option Batch} {s : Bool} (hl : c.limited = true)
    (h : stepOp c a av op = .take a' out s) :
    (c.ge = true → a.consumed < c.allow) ∧ (c.ge = false → a.consumed ≤ c.allow) :=
  (cutoff_false hl).mp (stepOp_take h).1

/-- A whole cycle releases less than allowance + the cost of its last operation (v2; v1: at most). -/
theorem cycle_release_bound (c : Cfg) (buf : List Op) (free : Option Nat) (hl : c.limited = true) :
    let r := scan c buf { consumed := 0, openB := [] } free
    r.acc.consumed = 0 ∨ ∃ op ∈ buf,
      (c.ge = true → r.acc.consumed < c.allow + op.cost) ∧ (c.ge = false → r.acc.consumed ≤ c.allow + op.cost) := by
  rcases (scan_scans c buf { consumed := 0, openB := [] } free).last with h | ⟨op, hop, k, -, hk, he⟩
  · exact Or.inl h
  · have hk := (cutoff_false hl).mp hk
    exact Or.inr ⟨op, hop, fun hge => he ▸ Nat.add_lt_add_right (hk.1 hge) _,
      fun hge => he ▸ Nat.add_le_add_right (hk.2 hge) _⟩

/-- `consumed` is exactly the cost of everything the cycle handed out (raised + still-open batches). -/
theorem consumed_is_released_cost (c : Cfg) (buf : List Op) (free : Option Nat) :
    let r := scan c buf { consumed := 0, openB := [] } free
    r.acc.consumed = costB r.raised + costB r.acc.openB := by
  simpa using (scan_scans c buf { consumed := 0, openB := [] } free).cost

/-- v2 releases nothing at all when the allowance is zero. -/
theorem v2_zero_allowance_releases_nothing (c : Cfg) (buf : List Op) (free : Option Nat)
    (hl : c.limited = true) (hge : c.ge = true) (h0 : c.allow = 0) (sweep : List Batch)
    (hsw : SweepOK c buf free sweep) :
    cycleBatches c buf free sweep = [] ∧ cycleBuffer c buf free = buf := by
  have hr := (scan_scans c buf { consumed := 0, openB := [] } free).stopped
    (cutoff_iff.mpr ⟨hl, fun _ => h0 ▸ Nat.le_refl 0, fun h => by rw [hge] at h; cases h⟩)
  unfold SweepOK at hsw
  rw [hr] at hsw
  simp [cycleBatches, cycleBuffer, hr, hsw.eq_nil]

-- non-vacuity: the cut-off looks at the cost released so far, before each operation. Costs 2 each: v2 (`≥`) with
-- allowance 3 releases two (0, 2 < 3; 4 ≥ 3); with allowance 4, v1 (`>`) releases three (0, 2, 4 ≤ 4; 6 > 4) and v2 two
private def o (id cost : Nat) : Op := { id := id, obj := id, w := 0, cost := cost, batchable := false }
example : (cycleBuffer { ge := true, limited := true, allow := 3, mb := fun _ => 0 } [o 0 2, o 1 2, o 2 2] none) = [o 2 2] := by decide
example : (cycleBuffer { ge := false, limited := true, allow := 4, mb := fun _ => 0 } [o 0 2, o 1 2, o 2 2, o 3 2] none) = [o 3 2] := by decide
example : (cycleBuffer { ge := true, limited := true, allow := 4, mb := fun _ => 0 } [o 0 2, o 1 2, o 2 2, o 3 2] none) = [o 2 2, o 3 2] := by decide

end GoBatcher.C02
