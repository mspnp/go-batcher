import GoBatcher.Lemmas.CycleOrder
/-!
# C05 — Batches respect watcher, batchability, size limit and order

Model: M-Cycle (`scan`, `SweepOK`, `cycleBatches`), both generations (`Cfg.ge`), every buffer content,
every batch-size limit function `mb`, every allowance, every slot limit, every leftover order.
-/
namespace GoBatcher.C05

/-- Everything a complete cycle hands to watchers is a well-formed batch: non-empty, only the watcher's own
operations, a non-batchable operation alone, never above MaxBatchSize. -/
theorem batches_well_formed (c : Cfg) (buf : List Op) (free : Option Nat) (sweep : List Batch)
    (hsw : SweepOK c buf free sweep) :
    ∀ p ∈ cycleBatches c buf free sweep, RaisedOK c p := by
  intro p hp
  have hsh := (scan_scans c buf { consumed := 0, openB := [] } free).shape (OpenOK_nil c)
  simp only [cycleBatches, List.mem_append] at hp
  rcases hp with hp | hp
  · exact (hsh.2 p hp).1
  · exact (hsh.1.1 p (hsw.mem_iff.mp hp)).raised

/-- "within one cycle a Watcher gets a second batch only after its previous one was full": every batch raised
before the end-of-cycle sweep is a lone non-batchable operation or has exactly MaxBatchSize operations, and
the sweep raises at most one batch per watcher (the open-batch table has one entry per watcher). -/
theorem second_batch_only_after_full (c : Cfg) (buf : List Op) (free : Option Nat) :
    let r := scan c buf { consumed := 0, openB := [] } free
    (∀ p ∈ r.raised, (∃ o, p.2 = [o] ∧ o.batchable = false) ∨ (c.mb p.1 > 0 ∧ p.2.length = c.mb p.1)) ∧
    (r.acc.openB.map (·.1)).Nodup := by
  have hsh := (scan_scans c buf { consumed := 0, openB := [] } free).shape (OpenOK_nil c)
  exact ⟨fun p hp => (hsh.2 p hp).2, hsh.1.2⟩

/-- Operations keep buffer (enqueue) order inside every batch, with or without a slot limit. -/
theorem order_inside_batches (c : Cfg) (buf : List Op) (free : Option Nat) (sweep : List Batch)
    (hsw : SweepOK c buf free sweep) :
    ∀ p ∈ cycleBatches c buf free sweep, p.2.Sublist buf := by
  intro p hp
  obtain ⟨pre, l, he, hs, hpre⟩ := (scan_scans c buf { consumed := 0, openB := [] } free).extends p
    ((hsw.append_left _).mem_iff.mp hp)
  rcases hpre with hpre | hpre
  · rw [he, hpre]; simpa using hs
  · simp at hpre

/-- Without a concurrency limit each watcher's batchable operations, and all non-batchable operations, are
released in enqueue order: concatenating what the watcher got (in raise order, its leftover batch last)
gives exactly the corresponding subsequence of the scanned prefix of the buffer. -/
theorem fifo_per_class_without_slot_limit (c : Cfg) (buf : List Op) (w : Nat) :
    let r := scan c buf { consumed := 0, openB := [] } none
    ∃ pre, buf = pre ++ r.rest ∧ r.kept = [] ∧
      (opsOf r.raised).filter (selW w) ++ openOf w r.acc.openB = pre.filter (selW w) ∧
      (opsOf r.raised).filter selS = pre.filter selS := by
  have h := scan_scans c buf { consumed := 0, openB := [] } none
  obtain ⟨pre, h1, h2, h3⟩ := h.fifo h.unlimited_kept (OpenOK_nil c) w
  exact ⟨pre, h1, h.unlimited_kept, h2, h3⟩

/-! ### non-vacuity / sanity: concrete cycles computed by the same definitions -/

private def o (id w cost : Nat) (b : Bool) : Op := { id := id, obj := id, w := w, cost := cost, batchable := b }
private def cfg2 : Cfg := { ge := true, limited := true, allow := 10, mb := fun w => if w = 1 then 2 else 0 }

-- watcher 1 (limit 2) gets [1,2] at once and [4] at the end; the single 3 goes alone; watcher 2 unlimited
example : (scan cfg2 [o 1 1 1 true, o 2 1 1 true, o 3 1 1 false, o 4 1 1 true, o 5 2 1 true]
      { consumed := 0, openB := [] } none).raised = [(1, [o 1 1 1 true, o 2 1 1 true]), (1, [o 3 1 1 false])] := by decide
example : SweepOK cfg2 [o 1 1 1 true, o 2 1 1 true, o 3 1 1 false, o 4 1 1 true, o 5 2 1 true] none
    [(1, [o 4 1 1 true]), (2, [o 5 2 1 true])] := by
  unfold SweepOK
  have : (scan cfg2 [o 1 1 1 true, o 2 1 1 true, o 3 1 1 false, o 4 1 1 true, o 5 2 1 true]
      { consumed := 0, openB := [] } none).acc.openB = [(2, [o 5 2 1 true]), (1, [o 4 1 1 true])] := by decide
  rw [this]; exact List.Perm.swap _ _ _

-- with one slot, watcher 2's operation is skipped and stays buffered
example : cycleBuffer cfg2 [o 1 1 1 true, o 5 2 1 true, o 2 1 1 true] (some 1) = [o 5 2 1 true] := by decide

end GoBatcher.C05
