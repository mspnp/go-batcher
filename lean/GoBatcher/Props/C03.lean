import GoBatcher.Lemmas.BatcherAcct
/-!
# C03 — NeedsCapacity equals the cost of all outstanding operations

Model: M-Batcher, all label sequences (concurrent enqueuers, rejected enqueues of every kind, batches that
return early, late or never, audits at any point, pauses, shutdown), both generations.

`outstanding s` = cost of (buffered ⊎ counted-but-not-yet-inserted or blocked callers ⊎ open batches of the
running cycle ⊎ raised batches not yet finished) + what a shutdown discarded.

Full statement `C03_full`: `NeedsCapacity = outstanding` in every reachable state. On the current code this
does NOT hold unconditionally; the file proves the strongest true statement (`C03_partial`, the exclusions are
named in `cleanStep`) and refutes the full one by concrete executions of the model that are replayed on the
implementation by the hist family (findings F3, F9).
-/
namespace GoBatcher.C03

/-- the full-strength statement -/
def C03_full (c : BCfg) : Prop := ∀ s, Reachable c s → s.target = outstanding s

/-- Proved: along every run in which (a) costs are constant, (b) v1 is not asked to enqueue after its buffer
channel was closed and nobody is blocked on it at shutdown (finding F3), (c) no audit fires while an Enqueue sits
between counting and inserting (finding F9), with Enqueue taking the cost back on refusal (fact `rollbackOnInsertError`,
true since the fix of F1/F2) and no watcher MaxOperationTime above the Batcher's: NeedsCapacity equals the cost
of everything outstanding — never under- or over-counting. -/
theorem C03_partial (c : BCfg) (hroll : c.rollback = true) (hw : ∀ w, effMot c w ≤ c.mot)
    (ls : List Label) (s : St) (hrun : run c (St.init c) ls = some s)
    (hclean : AllSteps c (cleanStep c) (St.init c) ls) : s.target = outstanding s :=
  run_acct c hroll hw ls _ s hrun hclean (inv_init c) (acct_init c)

/-- It returns to zero when nothing is outstanding. -/
theorem zero_when_nothing_outstanding (c : BCfg) (hroll : c.rollback = true) (hw : ∀ w, effMot c w ≤ c.mot)
    (ls : List Label) (s : St) (hrun : run c (St.init c) ls = some s)
    (hclean : AllSteps c (cleanStep c) (St.init c) ls) (h0 : outstanding s = 0) : s.target = 0 := by
  rw [C03_partial c hroll hw ls s hrun hclean, h0]

/-- It never wraps below zero: whenever a batch finishes, its cost is still contained in the figure, so the
saturating subtraction `incTarget(-total)` never saturates. -/
theorem finish_never_saturates (c : BCfg) (s : St) (b : Nat) (x : RBatch)
    (hid : IdsOK s) (ha : Acct s) (hf : s.batches.find? (fun y => y.id == b) = some x) (hu : x.finished = false) :
    batchCost x ≤ s.target := by
  have := costUnfinished_mark s.batches b x hid.2 (find_batch hf).1 (find_batch hf).2 hu
  unfold Acct outstanding at ha
  omega

/-- An Enqueue that is refused by the buffer (full / shut down) leaves NeedsCapacity as it was before the call:
counting and taking back cancel exactly (no saturation under the invariant). -/
theorem refused_enqueue_leaves_demand_unchanged (s : St) (k : Nat) (op : Op) (r : EnqRes)
    (hp : PendOK s) (hm : (k, op) ∈ s.pend) (ha : Acct s) :
    (enqRefuse s k op r true).target + op.cost = s.target := by
  have hrm := costPend_remove k op s.pend hp.1 hm
  have hle : op.cost ≤ s.target := by unfold Acct outstanding at ha; omega
  exact Nat.sub_add_cancel hle

/-- A rejected (invalid) Enqueue changes nothing at all. -/
theorem rejected_enqueue_no_effect (c : BCfg) (s : St) (k : Nat) (e : Err) : step c s (.enqReject k e) = some s := rfl

/-! ### the full statement fails on the model of the current code: concrete executions -/

private def cfgV (g : Gen) (roll : Bool) : BCfg :=
  { gen := g, bufCap := 1, limited := false, flushInt := 100, capInt := 100, auditInt := 50, mot := 10, pause := 5,
    errorOnFull := true, mcb := 0, wMaxBatch := fun _ => 0, wMot := fun _ => 0, rollback := roll, wos := true }
private def op7 : Op := { id := 1, obj := 1, w := 0, cost := 7, batchable := true }
private def op2 : Op := { id := 2, obj := 2, w := 0, cost := 2, batchable := true }

/-- F9 (both generations): the audit tick fires while an Enqueue has counted its cost but not yet inserted the
operation (the hook point `enqueue:counted`): the buffer is empty, so the audit zeroes a correct figure
(the run ends with demand 0, outstanding 7). -/
def f9Run : List Label := [.startCall, .enqCount 1 op7, .advance 50, .fireA, .takeAudit]

theorem C03_counterexample_audit_in_flight : ¬ C03_full (cfgV .v2 true) :=
  not_reachable_all f9Run rfl (by decide)

/-- F3 (v1): an Enqueue that arrives after Stop() has closed the buffer channel counts its cost and then panics
(demand 7, outstanding 0). -/
def f3Run : List Label := [.startCall, .stopCall, .takeStop, .enqCount 1 op7, .enqInsert 1]

theorem C03_counterexample_v1_after_stop : ¬ C03_full (cfgV .v1 true) :=
  not_reachable_all f3Run rfl (by decide)

/-- Regression witness for F1: on code that does not take the cost back (`rollback = false`), a BufferFull
refusal leaves the cost in the figure (demand 9, outstanding 2). -/
def f1Run : List Label := [.enqCount 1 op2, .enqInsert 1, .enqCount 2 op7, .enqInsert 2]

theorem C03_counterexample_without_rollback : ¬ C03_full (cfgV .v2 false) :=
  not_reachable_all f1Run rfl (by decide)

/-! ### non-vacuity: a clean run that exercises every class of outstanding cost -/

private def cfgN : BCfg :=
  { gen := .v2, bufCap := 1, limited := false, flushInt := 100, capInt := 100, auditInt := 1000, mot := 50, pause := 5,
    errorOnFull := false, mcb := 0, wMaxBatch := fun _ => 0, wMot := fun _ => 0, rollback := true, wos := true }

/-- op2 is delivered and still in its callback, op7 is buffered, a third caller is blocked on the full buffer -/
def cleanRun : List Label :=
  [.startCall, .enqCount 1 op2, .enqInsert 1, .advance 100, .fireF, .fireC, .takeFlushTick, .cycleBegin 0, .cycleStep,
   .scanEnd, .sweepOne 0, .cycleEnd, .takeCap, .enqCount 2 op7, .enqInsert 2, .enqCount 3 op2, .enqInsert 3]

example : ∃ s, run cfgN (St.init cfgN) cleanRun = some s ∧ s.target = 11 ∧ outstanding s = 11 ∧
    s.bm.buf.items.length = 1 ∧ s.bm.waiting.length = 1 ∧ (unfinished s).length = 1 := by
  refine ⟨_, rfl, ?_, ?_, ?_, ?_, ?_⟩ <;> decide

example : AllSteps cfgN (cleanStep cfgN) (St.init cfgN) cleanRun := by
  simp [AllSteps, cleanRun, cleanStep, cfgN]

end GoBatcher.C03
