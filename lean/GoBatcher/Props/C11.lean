import GoBatcher.Lemmas.BatcherInv
/-!
# C11 — A stuck callback is written off exactly at MaxOperationTime

Model: M-Batcher. `finish b` is the batch goroutine passing its `select` (callback returned or
`time.After(maxOperationTime)` fired): it subtracts the batch cost from the target and releases the slot.
"Exactly" is exact in the model's / synctest's time.
-/
namespace GoBatcher.C11

/-- which limit applies: the Watcher's MaxOperationTime if set (> 0), otherwise the Batcher's, whose default
(when unset, zero or negative) is one minute -/
theorem limit_precedence (c : BCfg) (w : Nat) :
    effMot c w = (if c.wMot w > 0 then c.wMot w else c.mot) := rfl

theorem batcher_default (v : Int) (h : v ≤ 0) : applyDefault v defMot = 60000000000 := by
  simp [applyDefault, h, defMot]

theorem explicit_value_kept (v d : Int) (h : v > 0) : (applyDefault v d : Int) = v := by
  have : ¬ v ≤ 0 := by omega
  simp [applyDefault, this]; omega

/-- every batch's deadline is its raise time + the applicable limit -/
theorem deadline_is_raise_plus_limit (c : BCfg) (s : St) (h : Reachable c s) :
    ∀ b ∈ s.batches, b.deadline = b.raisedAt + effMot c b.w := by
  intro b hb
  obtain ⟨t, _, _, hd⟩ := (reachable_inv c s h).time.2.1 b hb
  exact hd

/-- not earlier: a batch is finished only if its callback returned or its deadline has been reached -/
def FinOK (s : St) : Prop := ∀ b ∈ s.batches, b.finished = true → b.cbDone = true ∨ b.deadline ≤ s.now

theorem raise_finOK (c : BCfg) (s : St) (p : Batch) (h : FinOK s) : FinOK (raise c s p) :=
  fun y hy hfin => (mem_raise hy).elim (fun hm => raise_now c s p ▸ h y hm hfin) fun e => by rw [e] at hfin; cases hfin

theorem step_finOK (c : BCfg) (s s' : St) (l : Label) (h : step c s l = some s') (hid : IdsOK s) (hi : FinOK s) : FinOK s' := by
  unfold FinOK at *
  induction Step.of_step h with
  | @finish b x hf _ hd =>
    refine List.forall_mem_map.mpr fun z hz hfin => ?_
    by_cases hzb : z.id = b
    · cases ids_unique s.batches hid.2 x z (find_batch hf).1 hz ((find_batch hf).2.trans hzb.symm)
      simpa [hzb, markFinished] using hd
    · rw [if_neg (by simpa using hzb)] at hfin ⊢
      exact hi z hz hfin
  | cbReturn =>
    refine List.forall_mem_map.mpr fun z hz hfin => ?_
    split
    · exact .inl rfl
    · exact hi z hz (by rwa [if_neg ‹_›] at hfin)
  | advance => exact fun y hy hfin => (hi y hy hfin).imp_right (Nat.le_trans · (Nat.le_add_right _ _))
  | setCost => exact List.forall_mem_map.mpr hi
  | cycleRaise | sweepOne => exact raise_eq c s _ ▸ raise_finOK c s _ hi
  | _ => assumption

theorem run_finOK (c : BCfg) (ls : List Label) (s s' : St) (h : run c s ls = some s') (hi : Inv c s) (hf : FinOK s) :
    FinOK s' :=
  (run_induct (P := fun s => Inv c s ∧ FinOK s)
    (fun s s' l h hp => ⟨step_inv c s s' l h hp.1, step_finOK c s s' l h hp.1.ids hp.2⟩) ls s s' h ⟨hi, hf⟩).2

/-- **Exactly at MaxOperationTime.** In every reachable state in which time can pass (everything runnable has
run — the states an observer samples), a batch counts as finished iff its callback has returned or
MaxOperationTime has elapsed since it was raised — not earlier, not later. -/
theorem finished_iff_returned_or_timed_out (c : BCfg) (s : St) (h : Reachable c s) (dt : Nat)
    (hadv : canAdvance s dt = true) :
    ∀ b ∈ s.batches, b.finished = true ↔ (b.cbDone = true ∨ b.raisedAt + effMot c b.w ≤ s.now) := by
  obtain ⟨ls, hr⟩ := h
  have hfin := run_finOK c ls _ s hr (inv_init c) (by simp [FinOK, St.init])
  intro b hb
  have hd := deadline_is_raise_plus_limit c s ⟨ls, hr⟩ b hb
  rw [← hd]
  constructor
  · exact hfin b hb
  · intro hor
    cases hf : b.finished with
    | true => rfl
    | false =>
      -- time can pass: an unfinished batch is still with its callback and strictly within its limit
      have := (canAdvance_spec hadv).batches b hb hf
      have hdt := (canAdvance_spec hadv).pos
      rcases hor with h1 | h1
      · rw [this.1] at h1; cases h1
      · omega

/-- **Only once**, even if the callback returns afterwards: the write-off is enabled only for an unfinished
batch, it marks it finished, and a later callback return changes nothing but the `cbDone` flag. -/
theorem finish_only_once (c : BCfg) (s s' : St) (b : Nat) (h : step c s (.finish b) = some s') :
    ∃ x, s.batches.find? (fun y => y.id == b) = some x ∧ x.finished = false ∧
      s'.target = s.target - batchCost x ∧ s'.slots = (if c.mcb != 0 then s.slots - 1 else s.slots) := by
  cases Step.of_step h with
  | finish hf hx => exact ⟨_, hf, hx, rfl, rfl⟩

theorem find_after_mark (l : List RBatch) (b : Nat) (x : RBatch) (hf : l.find? (fun y => y.id == b) = some x) :
    (l.map (markFin b)).find? (fun y => y.id == b) = some (markFin b x) := by
  have hid : (fun y : RBatch => y.id == b) ∘ markFin b = fun y => y.id == b :=
    funext fun y => by simp only [Function.comp, markFin]; split <;> rfl
  rw [List.find?_map, hid, hf]; rfl

theorem finished_stays_finished (c : BCfg) (s s' : St) (b : Nat) (h : step c s (.finish b) = some s') :
    step c s' (.finish b) = none := by
  cases Step.of_step h with
  | @finish _ x hf =>
    simp [step, markFinished_batches, find_after_mark s.batches b x hf, markFin_finished (find_batch hf).2]

theorem late_return_changes_nothing (c : BCfg) (s s' : St) (b : Nat) (h : step c s (.cbReturn b) = some s') :
    s'.target = s.target ∧ s'.slots = s.slots := by
  cases Step.of_step h with
  | cbReturn => exact ⟨rfl, rfl⟩

-- non-vacuity: a batch raised at 100 with limit 50 is unfinished at 149 and written off at exactly 150
private def cfg : BCfg :=
  { gen := .v2, bufCap := 1, limited := false, flushInt := 100, capInt := 1000, auditInt := 1000, mot := 50, pause := 5,
    errorOnFull := false, mcb := 0, wMaxBatch := fun _ => 0, wMot := fun _ => 0, rollback := true, wos := true }
private def op2 : Op := { id := 1, obj := 1, w := 0, cost := 2, batchable := false }
private def pre : List Label :=
  [.startCall, .enqCount 1 op2, .enqInsert 1, .advance 100, .fireF, .takeFlushTick, .cycleBegin 0, .cycleStep, .scanEnd, .cycleEnd]
example : ∃ s, run cfg (St.init cfg) (pre ++ [.advance 49]) = some s ∧ s.target = 2 := ⟨_, rfl, by decide⟩
example : run cfg (St.init cfg) (pre ++ [.advance 49, .finish 0]) = none := by decide
example : run cfg (St.init cfg) (pre ++ [.advance 51]) = none := by decide
example : ∃ s, run cfg (St.init cfg) (pre ++ [.advance 50, .finish 0, .cbReturn 0]) = some s ∧ s.target = 0 := ⟨_, rfl, by decide⟩

end GoBatcher.C11
