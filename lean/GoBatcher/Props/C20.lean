import GoBatcher.Lemmas.Eventer
/-!
# C20 — The public API is safe under concurrent use and listeners see every event  (PARTIAL)

Proved, over M-Eventer (the listener registry of both generations under its RWMutex; any number of concurrent
AddListener / RemoveListener / emit calls, any interleaving, any order of calling the listeners):

* no event reaches a listener after its RemoveListener has returned (`no_delivery_after_remove`);
* every listener registered when the event is raised receives it exactly once, nobody else receives it, and nothing
  is delivered for that event after the emit has returned (`exactly_once`, `snapshot_is_registered`, `nothing_after_return`);
* listeners can be added and removed at any time: the write steps are enabled whenever no emit is in progress, and an
  emit in progress can always make a step (no deadlock inside the registry) (`writes_enabled_when_idle`, `emit_progress`).

NOT proved (the property's first sentence): freedom from data races, panics and deadlock of every public method of
Batcher and SharedResource is a statement about the Go memory model and runtime; it is observed by the `events` and
`stress` families (race detector, watchdog, per-listener logs), which is exploration, not proof.
The documented names and values of the Batcher / SharedResource events are compared on every trace of the hist and
lease families (C01–C19), not here.
-/
namespace GoBatcher.C20

def EReach (s : ESt) : Prop := ∃ ls, erun ESt.init ls = some s

theorem reach_inv {s : ESt} (h : EReach s) : EInv s := by
  obtain ⟨ls, h⟩ := h
  exact erun_induct step_einv ls _ s h einv_init

/-- **No event reaches a listener after RemoveListener has returned.** -/
theorem no_delivery_after_remove {s s' : ESt} (hr : EReach s) (ev id : Nat) (h : estep s (.deliver ev id) = some s') :
    id ∉ s.removed := by
  have hi := reach_inv hr
  cases EStep.of_step h with
  | deliver hact hpen => exact fun hrm => hi.rem id hrm ((hi.act ev hact).pend id hpen)

/-- a removed listener stays removed: ids are never reused -/
theorem removed_forever (s s' : ESt) (l : ELabel) (h : estep s l = some s') (id : Nat) (hr : id ∈ s.removed) : id ∈ s'.removed := by
  induction EStep.of_step h with
  | remove => exact List.mem_cons_of_mem _ hr
  | _ => assumption

/-- the emit's snapshot is exactly the listeners registered at the moment it takes the lock -/
theorem snapshot_is_registered (s s' : ESt) (ev : Nat) (h : estep s (.emitBegin ev) = some s') :
    (s'.em ev).snap = s.listeners := by
  cases EStep.of_step h with
  | emitBegin => exact congrArg Emit.snap (updE_same ..)

/-- **Exactly once.** When an emit has returned, every listener of its snapshot has been called exactly once for
that event and nobody else has been called for it. -/
theorem exactly_once {s : ESt} (hr : EReach s) (ev : Nat) (hf : ev ∈ s.finished) (id : Nat) :
    s.log.count (ev, id) = if id ∈ (s.em ev).snap then 1 else 0 := (reach_inv hr).fin ev hf id

/-- … and that stays so: nothing is delivered for an event whose emit has returned, and its record never changes -/
theorem nothing_after_return {s : ESt} (hr : EReach s) (ev id : Nat) (hf : ev ∈ s.finished) :
    estep s (.deliver ev id) = none := by
  cases h : estep s (.deliver ev id) with
  | none => rfl
  | some s' =>
    cases EStep.of_step h with
    | deliver hact => exact absurd hf ((reach_inv hr).afresh ev hact)

theorem finished_forever (s s' : ESt) (l : ELabel) (h : estep s l = some s') (ev : Nat) (hf : ev ∈ s.finished) :
    ev ∈ s'.finished ∧ (s'.em ev).snap = (s.em ev).snap ∨ ev ∈ s.active := by
  induction EStep.of_step h with
  | add | remove => exact .inl ⟨hf, rfl⟩
  | @emitBegin ev' _ hnf => exact .inl ⟨hf, by simp [updE_other (ne_of_mem_of_not_mem hf hnf)]⟩
  | @deliver ev' _ ha =>
    by_cases he : ev = ev'
    · exact .inr (he ▸ ha)
    · exact .inl ⟨hf, by simp [updE_other he]⟩
  | emitEnd => exact .inl ⟨List.mem_cons_of_mem _ hf, rfl⟩

/-- **Listeners can be added and removed at any time**: whenever no emit is in progress, RemoveListener of any id and
AddListener of a fresh id are enabled -/
theorem writes_enabled_when_idle (s : ESt) (hidle : s.active = []) (id : Nat) :
    (∃ s', estep s (.remove id) = some s') ∧
    (id ∉ s.listeners → id ∉ s.removed → ∃ s', estep s (.add id) = some s') := by
  constructor
  · simp [estep, hidle]
  · intro h1 h2; simp [estep, hidle, h1, h2]

/-- an emit in progress can always take a step: call a pending listener or return (the registry never blocks it) -/
theorem emit_progress (s : ESt) (ev : Nat) (h : ev ∈ s.active) :
    (∃ id s', estep s (.deliver ev id) = some s') ∨ (∃ s', estep s (.emitEnd ev) = some s') := by
  cases hp : (s.em ev).pending with
  | nil => exact Or.inr (by simp [estep, h, hp])
  | cons id t => exact Or.inl ⟨id, by simp [estep, h, hp]⟩

/-- while an emit is in progress the registry does not change: the write steps are not enabled -/
theorem no_write_during_emit (s : ESt) (ev : Nat) (h : ev ∈ s.active) (id : Nat) :
    estep s (.add id) = none ∧ estep s (.remove id) = none := by
  have : s.active.isEmpty = false := by
    cases hs : s.active with
    | nil => rw [hs] at h; cases h
    | cons a t => rfl
  simp [estep, this]

-- non-vacuity: two listeners, an emit delivering to both in the other order, a removal afterwards, a second emit reaching only the remaining one
example : ∃ s, erun ESt.init [.add 1, .add 2, .emitBegin 10, .deliver 10 1, .deliver 10 2, .emitEnd 10, .remove 1,
    .emitBegin 11, .deliver 11 2, .emitEnd 11] = some s ∧ s.log = [(11, 2), (10, 2), (10, 1)] ∧ s.removed = [1] :=
  ⟨_, rfl, by decide, by decide⟩
-- the removed listener cannot be reached by the second emit
example : (erun ESt.init [.add 1, .add 2, .remove 1, .emitBegin 11, .deliver 11 1]).isNone = true := by decide

end GoBatcher.C20
