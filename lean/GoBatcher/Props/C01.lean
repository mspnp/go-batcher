import GoBatcher.Props.C05
/-!
# C01 — exactly-once delivery to the own watcher (cycle level)

Conservation through one cycle, for every buffer, configuration and sweep order. The history-level
statement over the whole Batcher machine (enqueuers, ticks, pauses, shutdown) is in `C01b`.
-/
namespace GoBatcher.C01

/-- Nothing is lost or duplicated by a cycle: every operation occurrence of the buffer is afterwards in
exactly one place — one batch handed to a watcher, or still buffered — for every sweep order. -/
theorem cycle_exactly_once (c : Cfg) (x : Op) (buf : List Op) (free : Option Nat) (sweep : List Batch)
    (hsw : SweepOK c buf free sweep) :
    cntB x (cycleBatches c buf free sweep) + (cycleBuffer c buf free).count x = buf.count x := by
  simpa [cntB_eq] using (cycle_perm c buf free sweep hsw).count_eq x

/-- … never another Watcher's: every operation in a batch handed to watcher `w` belongs to `w`. -/
theorem own_watcher (c : Cfg) (buf : List Op) (free : Option Nat) (sweep : List Batch)
    (hsw : SweepOK c buf free sweep) :
    ∀ p ∈ cycleBatches c buf free sweep, ∀ o ∈ p.2, o.w = p.1 :=
  fun p hp => (C05.batches_well_formed c buf free sweep hsw p hp).2.1

/-- mid-cycle version used by the machine: one loop step conserves occurrences -/
theorem step_conserves (c : Cfg) (a : Acc) (av : Bool) (op x : Op)
    {a' : Acc} {out : Option Batch} {s : Bool} (h : stepOp c a av op = .take a' out s) :
    cntB x a'.openB + optCnt x out = cntB x a.openB + (if op = x then 1 else 0) :=
  stepOp_conserve c a av op x h

-- non-vacuity
private def o (id w : Nat) (b : Bool) : Op := { id := id, obj := id, w := w, cost := 1, batchable := b }
example : SweepOK { ge := true, limited := false, allow := 0, mb := fun _ => 0 } [o 0 0 true, o 1 1 true] none
    [(1, [o 1 1 true]), (0, [o 0 0 true])] := by
  unfold SweepOK
  have : (scan { ge := true, limited := false, allow := 0, mb := fun _ => 0 } [o 0 0 true, o 1 1 true]
      { consumed := 0, openB := [] } none).acc.openB = [(1, [o 1 1 true]), (0, [o 0 0 true])] := by decide
  rw [this]

end GoBatcher.C01
