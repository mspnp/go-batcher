import GoBatcher.Lemmas.BatcherLoop
/-!
# C02 (machine level) — cycles start only on FlushInterval ticks, one per tick; each Flush() adds at most one
-/
namespace GoBatcher.C02b

/-- In every reachable state: cycles begun (+ a pending request) ≤ flush ticks taken + Flush() calls.
Requests coalesce in the 1-slot channel, so k calls (or ticks) while one is pending add one cycle. -/
theorem cycles_bounded_by_ticks_and_calls (c : BCfg) (s : St) (h : Reachable c s) :
    s.cycles + b2n s.flushReq ≤ s.flushTicksTaken + s.flushCalls :=
  (reachable_loopOK c s h).cycles

/-- a cycle begins only by consuming a request, and a request is made only by a tick or a Flush() call -/
theorem cycle_needs_request (c : BCfg) (s s' : St) (a : Nat) (h : step c s (.cycleBegin a) = some s') :
    s.loop = .idle ∧ s.flushReq = true ∧ s'.flushReq = false ∧ s'.cycles = s.cycles + 1 := by
  cases Step.of_step h with
  | cycleBegin _ hl hr => exact ⟨hl, hr, rfl, rfl⟩

/-- ticks are exactly FlushInterval apart (default 100 ms), and a tick is taken at most once -/
theorem flush_ticks (c : BCfg) (s s' : St) :
    (step c s .fireF = some s' → s.now = s.nextF ∧ s'.nextF = s.nextF + c.flushInt ∧ s'.tickF = true) ∧
    (step c s .takeFlushTick = some s' → s.tickF = true ∧ s'.tickF = false ∧ s'.flushReq = true) := by
  constructor <;> intro h
  · cases Step.of_step h with
    | fireF _ hn => exact ⟨hn, rfl, rfl⟩
  · cases Step.of_step h with
    | takeFlushTick _ ht => exact ⟨ht, rfl, rfl⟩

theorem flush_interval_default (v : Int) (h : v ≤ 0) : applyDefault v defFlush = 100000000 := by
  simp [applyDefault, h, defFlush]

end GoBatcher.C02b
