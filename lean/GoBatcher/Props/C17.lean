import GoBatcher.Lemmas.LeaseReach
/-!
# C17 — SharedResource lifecycle and live reconfiguration are safe

Model: M-Lease. `start` stands for v2 `Start` and for v1 `Provision` + `Start` (the orders v1 rejects are decided by
the phase checks, compared with the code as extracted facts and exercised by the lease family).
"Never panics": in the model every partition index in use is provably inside the provisioned range (below); the
absence of panics in the real code is observed by the harness on every scenario, not proved.
-/
namespace GoBatcher.C17

def rank : LPhase → Nat
  | .uninit => 0 | .started => 1 | .stopped => 2

/-- the lifecycle only moves forward -/
theorem phase_monotone (n : Nat) (s s' : LSt) (l : LLabel) (h : lstep n s l = some s') (i : Nat) :
    rank (s.inst i).phase ≤ rank (s'.inst i).phase := by
  rcases step_inst h i with e | ⟨_, _, hs, e⟩ <;> rw [e]
  · exact Nat.le_refl _
  · induction hs with
    | startOk hp => rw [hp]; exact Nat.zero_le _
    | stop => show rank _ ≤ 2; cases (s.inst i).phase <;> decide
    | _ => exact Nat.le_refl _

theorem run_phase_monotone (n : Nat) (i : Nat) : ∀ (ls : List LLabel) (s s' : LSt), lrun n s ls = some s' →
    rank (s.inst i).phase ≤ rank (s'.inst i).phase := fun _ s _ h =>
  lrun_induct (P := fun t => rank (s.inst i).phase ≤ rank (t.inst i).phase) h
    (fun l _ t t' ht hp => Nat.le_trans hp (phase_monotone n t t' l ht i)) (Nat.le_refl _)

/-- Start is accepted only on a resource that has not been started … -/
theorem start_only_uninit (n : Nat) (s s' : LSt) (i : Nat) (ok : Bool) (h : lstep n s (.start i ok) = some s') :
    (s.inst i).phase = .uninit := by
  cases LStep.of_lstep h with
  | inst _ hs => cases hs with | startOk hp | startFail _ hp => exact hp

/-- … so **it starts exactly once**: after a successful start no later Start is accepted, whatever happened in between -/
theorem starts_once (n : Nat) (s s1 s2 : LSt) (i : Nat) (ok ok' : Bool) (_h : lstep n s (.start i ok) = some s1)
    (hst : (s1.inst i).phase = .started) (ls : List LLabel) (hr : lrun n s1 ls = some s2) :
    lstep n s2 (.start i ok') = none := by
  refine Option.eq_none_iff_forall_ne_some.mpr fun s3 h2 => ?_
  have hm := run_phase_monotone n i ls s1 s2 hr
  rw [hst, start_only_uninit n s2 s3 i ok' h2] at hm
  cases hm

/-- **A provisioning failure reported to the caller leaves the resource not started** (it can be started later) -/
theorem failed_start_changes_nothing (n : Nat) (s s' : LSt) (i : Nat) (h : lstep n s (.start i false) = some s') : s' = s := by
  cases LStep.of_lstep h with
  | inst _ hs => cases hs with | startFail => exact s.updI_inst_self i

/-- **Exactly one shutdown event**: never more than one … -/
theorem at_most_one_shutdown {n lease : Nat} {inst : Nat → LInst} (hc : Configured inst) {s : LSt}
    (h : LReach n lease inst s) (i : Nat) : (s.inst i).shutdowns ≤ 1 := (reach_lwf hc h i).shut

/-- … and a stopped resource has raised exactly one, runs no loop, **issues no lease request**, and cannot be stopped or started again -/
theorem stopped_is_final {n lease : Nat} {inst : Nat → LInst} (hc : Configured inst) {s : LSt}
    (h : LReach n lease inst s) (i : Nat) (hs : (s.inst i).phase = .stopped) :
    (s.inst i).shutdowns = 1 ∧ (∀ p, lstep n s (.issue i p) = none) ∧ lstep n s (.stop i) = none ∧
    (∀ ok, lstep n s (.start i ok) = none) := by
  obtain ⟨hoff, hone⟩ := (reach_lwf hc h i).stopped hs
  -- no rule of these labels applies: each asks for a running loop, or for a resource never started
  refine ⟨hone, fun p => lstep_none fun s' h' => ?_, lstep_none fun s' h' => ?_, fun ok => lstep_none fun s' h' => ?_⟩
  · cases h' with | inst _ h' => cases h' with | issue _ hon => rw [hoff] at hon; cases hon
  · cases h' with | inst _ h' => cases h' with | stop hon => rw [hoff] at hon; cases hon
  · cases h' with | inst _ h' => cases h' with | startOk hp | startFail _ hp => rw [hs] at hp; cases hp

/-- the shutdown is raised by the step that stops the loop -/
theorem stop_raises_shutdown (n : Nat) (s s' : LSt) (i : Nat) (h : lstep n s (.stop i) = some s') :
    (s'.inst i).shutdowns = (s.inst i).shutdowns + 1 ∧ (s'.inst i).phase = .stopped ∧ (s'.inst i).loopOn = false := by
  cases LStep.of_lstep h with
  | inst _ hs => cases hs with | stop => simp only [updI_same, and_self]

/-- **SetReservedCapacity takes effect immediately** in Capacity() and MaxCapacity() -/
theorem setReserved_immediate (n : Nat) (s s' : LSt) (i v : Nat) (h : lstep n s (.setReserved i v) = some s') :
    (s'.inst i).capacity = v + (s.inst i).factor * (s.inst i).held.length ∧
    (s'.inst i).maxCapacity + (s.inst i).reserved = (s.inst i).maxCapacity + v := by
  cases LStep.of_lstep h with
  | inst _ hs => cases hs with | setReserved _ hg =>
    simp only [updI_same, LInst.capacity, LInst.maxCapacity, hg, true_and]
    omega

/-- **SetSharedCapacity re-provisions to the new count**: partitions that still exist stay counted, dropped ones are not -/
theorem reprovision (n : Nat) (s s' : LSt) (i : Nat) (h : lstep n s (.provision i) = some s') :
    (s'.inst i).parts = partitionCount (s.inst i).gen (s.inst i).shared (s.inst i).factor ∧
    (∀ p, p ∈ (s'.inst i).held ↔ p ∈ (s.inst i).held ∧ p < (s'.inst i).parts) ∧
    (s'.inst i).timers = (s.inst i).timers := by
  cases LStep.of_lstep h with
  | inst _ hs => cases hs with | provision =>
    simp only [updI_same, List.mem_filter, decide_eq_true_eq, implies_true, and_self]

/-- a SetSharedCapacity records the new value and a pending re-provisioning, which the loop can carry out as soon as
no lease call is in flight (the loop notices the request at the top of its next iteration) -/
theorem setShared_requests_provisioning (n : Nat) (s s' : LSt) (i v : Nat) (h : lstep n s (.setShared i v) = some s') :
    (s'.inst i).shared = v ∧ (s'.inst i).needProvision = true ∧
    ((s'.inst i).loopOn = true → (s'.inst i).call = none → ∃ s'', lstep n s' (.provision i) = some s'') := by
  cases LStep.of_lstep h with
  | inst hi hs => cases hs with | setShared =>
    simp only [updI_same, true_and]
    intro hon hc
    unfold lstep
    simp [LLabel.inst?, hi, lstepCore, hon, hc]

/-- **Index safety for every history** (the model counterpart of "never panics"): whatever leases expire meanwhile,
every partition an instance counts, and the partition of its lease call in flight, exists; an expiry for a partition
that was dropped by a shrink is a no-op. -/
theorem indexes_in_range {n lease : Nat} {inst : Nat → LInst} (hc : Configured inst) {s : LSt}
    (h : LReach n lease inst s) (i : Nat) :
    (∀ p, p ∈ (s.inst i).held → p < (s.inst i).parts) ∧ (∀ cl, (s.inst i).call = some cl → cl.part < (s.inst i).parts) :=
  ⟨(reach_lwf hc h i).inRange, fun cl hcl => ((reach_lwf hc h i).callOK cl hcl).1⟩

theorem expire_of_dropped_is_noop (n : Nat) (s s' : LSt) (i p c : Nat) (h : lstep n s (.expire i p c) = some s')
    (hp : p ∉ (s.inst i).held) : (s'.inst i).held = (s.inst i).held := by
  cases LStep.of_lstep h with
  | inst _ hs => cases hs with | expire =>
    simp only [updI_same]
    exact List.filter_eq_self.mpr fun a ha => bne_iff_ne.mpr fun e => hp (e ▸ ha)

-- non-vacuity: grow, acquire partition 2, shrink to one partition: partition 2 is dropped, its expiry later is harmless
example : ∃ s, lrun 1 (initSt 15 (fun _ => LInst.init .v2 5 7 12))
    [.start 0 true, .provision 0, .giveMe 0 20, .issue 0 2, .proc 0 true, .ret 0, .setShared 0 5, .provision 0,
     .advance 15, .expire 0 2 15, .stop 0] = some s ∧
    (s.inst 0).parts = 1 ∧ (s.inst 0).held = [] ∧ (s.inst 0).shutdowns = 1 := ⟨_, rfl, by decide, by decide, by decide⟩

end GoBatcher.C17
