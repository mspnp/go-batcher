import GoBatcher.Lemmas.CycleProgress
/-!
# C08 — no starvation; work-conserving cycles (cycle level)

A cycle is *productive* when the cut-off does not hold at its start and a batch slot is available: v1 always
(cut-off is `0 > A`), v2 without limiter always, v2 with limiter iff the allowance `A ≥ 1`.
The unchanged code does NOT give `A ≥ 1` for every positive capacity (e.g. capacity 9 at 100 ms truncates
to 0): see `v2_small_capacity_counterexample` and known finding F6. Machine-level clauses (Flush()
coalescing, cycles per tick) are in `C08b`.
-/
namespace GoBatcher.C08

def productive (c : Cfg) (free : Option Nat) : Prop := cutoff c 0 = false ∧ slotAvail free = true

/-- Each cycle is work-conserving: it stops releasing only because the buffer is exhausted, the allowance is
used up (cut-off), or no batch slot is free. -/
theorem work_conserving (c : Cfg) (buf : List Op) (a : Acc) (free : Option Nat) :
    let r := scan c buf a free
    (r.rest = [] ∨ cutoff c r.acc.consumed = true) ∧ (r.kept ≠ [] → slotAvail r.free = false) :=
  ⟨(scan_scans c buf a free).rest, (scan_scans c buf a free).kept⟩

/-- what stays buffered keeps its order -/
theorem backlog_keeps_order (c : Cfg) (buf : List Op) (free : Option Nat) :
    (cycleBuffer c buf free).Sublist buf :=
  (scan_scans c buf _ free).buffer_sublist

/-- A productive cycle releases the head of the buffer: what is left is a sublist of the tail. -/
theorem head_released (c : Cfg) (op : Op) (buf : List Op) (free : Option Nat) (h : productive c free) :
    (cycleBuffer c (op :: buf) free).Sublist buf :=
  (scan_scans c (op :: buf) _ free).head_released h.1 h.2

/-- v1 cycles and unlimited cycles are always productive when a slot is available; v2 limited cycles
exactly when the allowance is at least 1. -/
theorem productive_iff (c : Cfg) (free : Option Nat) :
    productive c free ↔ (c.limited = true → c.ge = true → c.allow ≥ 1) ∧ slotAvail free = true := by
  unfold productive cutoff
  cases c.limited <;> cases c.ge <;> simp <;> omega

/-- In a productive cycle every operation that is still buffered afterwards has moved at least one place
towards the head (buffer entries are distinct occurrences: `Nodup`). -/
theorem position_decreases (c : Cfg) (buf : List Op) (free : Option Nat) (x : Op)
    (hn : buf.Nodup) (h : productive c free) (hx : x ∈ cycleBuffer c buf free) :
    (cycleBuffer c buf free).idxOf x < buf.idxOf x := by
  cases buf with
  | nil => simp [cycleBuffer, scan] at hx
  | cons op rest =>
    have hsub := head_released c op rest free h
    have hn' := List.nodup_cons.mp hn
    have hxr : x ∈ rest := hsub.subset hx
    have hne : op ≠ x := fun e => hn'.1 (e ▸ hxr)
    rw [idxOf_cons_ne hne]
    have := idxOf_sublist_le hsub hn'.2 hx
    omega

/-- enqueues append at the tail and do not change the position of what is already buffered -/
theorem enqueue_keeps_position (buf new : List Op) (x : Op) (hx : x ∈ buf) :
    (buf ++ new).idxOf x = buf.idxOf x := by
  rw [List.idxOf_append, if_pos hx]

/-- A run of cycles: before each cycle `new` operations are appended (concurrent or formerly blocked
enqueuers admitted), then the cycle runs. -/
def runCycles : List (Cfg × Option Nat × List Op) → List Op → List Op
  | [], buf => buf
  | (c, free, new) :: rest, buf => runCycles rest (cycleBuffer c (buf ++ new) free)

def allNew (cycles : List (Cfg × Option Nat × List Op)) : List Op := (cycles.map (·.2.2)).flatten

/-- whatever is buffered after a run was buffered before it or enqueued during it, in that order -/
theorem runCycles_sublist (cycles : List (Cfg × Option Nat × List Op)) : ∀ (buf : List Op),
    (runCycles cycles buf).Sublist (buf ++ allNew cycles) := by
  induction cycles with
  | nil => intro buf; simp [runCycles, allNew]
  | cons p rest ih =>
    obtain ⟨c, free, new⟩ := p
    intro buf
    simpa [allNew, runCycles] using (ih _).trans ((backlog_keeps_order c (buf ++ new) free).append (.refl _))

/-- Bounded delivery: an operation with `k` operations ahead of it is no longer buffered (it is in a raised
batch — conservation is C01) after at most `k + 1` productive cycles, whatever is enqueued behind it meanwhile.
Stated contrapositively: if it is still buffered after `n` productive cycles, then `n ≤ k` and it has moved
`n` places forward. Buffer entries and later enqueues are distinct occurrences (`Nodup`). -/
theorem delivered_within (cycles : List (Cfg × Option Nat × List Op)) : ∀ (buf : List Op) (x : Op),
    (∀ p ∈ cycles, productive p.1 p.2.1) → (buf ++ allNew cycles).Nodup → x ∈ buf →
    x ∈ runCycles cycles buf → (runCycles cycles buf).idxOf x + cycles.length ≤ buf.idxOf x := by
  induction cycles with
  | nil => intro buf x _ _ _ _; simp [runCycles]
  | cons p rest ih =>
    obtain ⟨c, free, new⟩ := p
    intro buf x hprod hnd hxb hx
    have hnd' : ((buf ++ new) ++ allNew rest).Nodup := by simpa [allNew] using hnd
    have hsub := (backlog_keeps_order c (buf ++ new) free).append (.refl (allNew rest))
    -- `x` is not among the later arrivals, so it is still buffered after this cycle, one place further on
    have hx1 : x ∈ cycleBuffer c (buf ++ new) free :=
      (List.mem_append.mp ((runCycles_sublist rest _).subset hx)).resolve_right fun hm =>
        (List.nodup_append.mp hnd').2.2 x (List.mem_append_left _ hxb) x hm rfl
    have hpos := position_decreases c (buf ++ new) free x (List.nodup_append.mp hnd').1
      (hprod _ List.mem_cons_self) hx1
    rw [enqueue_keeps_position buf new x hxb] at hpos
    have := ih _ x (fun p hp => hprod p (List.mem_cons_of_mem _ hp)) (hsub.nodup hnd') hx1 hx
    simp only [List.length_cons, runCycles]
    omega

/-- … hence after `k + 1` productive cycles it is gone. -/
theorem gone_after (cycles : List (Cfg × Option Nat × List Op)) (buf : List Op) (x : Op)
    (hprod : ∀ p ∈ cycles, productive p.1 p.2.1) (hnd : (buf ++ allNew cycles).Nodup) (hxb : x ∈ buf)
    (hlen : cycles.length > buf.idxOf x) : x ∉ runCycles cycles buf := by
  intro hx
  have := delivered_within cycles buf x hprod hnd hxb hx
  omega

/-- The unchanged v2 code computes the allowance `uint32(float64(9)/1000*100) = 0` for capacity 9 at a 100 ms
flush interval, and with allowance 0 nothing is ever released: a positive capacity that starves (finding F6). -/
theorem v2_small_capacity_counterexample :
    let c : Cfg := { ge := true, limited := true, allow := 0, mb := fun _ => 0 }
    let op : Op := { id := 0, obj := 0, w := 0, cost := 1, batchable := true }
    ¬ productive c none ∧ ∀ n, runCycles (List.replicate n (c, none, [])) [op] = [op] := by
  refine ⟨by simp [productive, cutoff], ?_⟩
  intro n
  induction n with
  | zero => rfl
  | succ n ih => simp only [List.replicate_succ, runCycles, List.append_nil]; exact ih

-- non-vacuity: a productive configuration and a run to which `delivered_within` applies
private def o (id : Nat) : Op := { id := id, obj := id, w := 0, cost := 5, batchable := false }
private def c1 : Cfg := { ge := true, limited := true, allow := 1, mb := fun _ => 0 }
example : productive c1 none := by simp [productive, cutoff, c1, slotAvail]
example : runCycles [(c1, none, [o 3]), (c1, none, [])] [o 0, o 1, o 2] = [o 2, o 3] := by decide

end GoBatcher.C08
