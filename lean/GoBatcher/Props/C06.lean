import GoBatcher.Lemmas.LeaseReach
import GoBatcher.Props.C04
import GoBatcher.Props.C17
/-!
# C06 — Capacity() = reserved + factor × held partitions, within MaxCapacity

Model: M-Lease (`Model/Lease.lean`). `LInst.capacity` *is* `reserved + factor × |held|` — the correspondence check
(lease family) compares it with `Capacity()` of the real code at every settled sample; the theorems below bound it
and pin the partition count and MaxCapacity() for every configuration and every history.
-/
namespace GoBatcher.C06

/-- `ceilDivN` is the ceiling of the quotient -/
theorem ceilDiv_spec (a f : Nat) (hf : 0 < f) : a ≤ f * ceilDivN a f ∧ f * ceilDivN a f < a + f := by
  unfold ceilDivN
  have h1 := Nat.div_add_mod (a + f - 1) f
  have h2 := Nat.mod_lt (a + f - 1) hf
  omega

theorem ceilDivN_mul (f k : Nat) (hf : 0 < f) : ceilDivN (f * k) f = k := by
  unfold ceilDivN
  rw [Nat.add_sub_assoc hf, Nat.mul_add_div hf, Nat.div_eq_of_lt (Nat.sub_lt hf Nat.one_pos), Nat.add_zero]

theorem ceilDiv_of_dvd (a f : Nat) (hf : 0 < f) (hd : a % f = 0) : f * ceilDivN a f = a := by
  obtain ⟨k, rfl⟩ := Nat.dvd_of_mod_eq_zero hd
  rw [ceilDivN_mul f k hf]

/-- `Capacity()` is the reserve plus `factor` for every counted partition — nothing else is counted -/
theorem capacity_formula (x : LInst) : x.capacity = x.reserved + x.factor * x.held.length := rfl

/-- in every reachable state every instance counts only existing partitions, each once -/
theorem held_le_parts {n lease : Nat} {inst : Nat → LInst} (hc : Configured inst) {s : LSt}
    (h : LReach n lease inst s) (i : Nat) : (s.inst i).held.length ≤ (s.inst i).parts :=
  C04.nodup_lt_length _ _ ((reach_lwf hc h i).nodup) ((reach_lwf hc h i).inRange)

/-- **Capacity() never exceeds reserved + factor × provisioned partitions** -/
theorem capacity_le {n lease : Nat} {inst : Nat → LInst} (hc : Configured inst) {s : LSt}
    (h : LReach n lease inst s) (i : Nat) :
    (s.inst i).capacity ≤ (s.inst i).reserved + (s.inst i).factor * (s.inst i).parts :=
  Nat.add_le_add_left (Nat.mul_le_mul_left _ (held_le_parts hc h i)) _

/-- never more than 500 partitions, in either generation -/
theorem parts_le_500 {n lease : Nat} {inst : Nat → LInst} (hc : Configured inst) {s : LSt}
    (h : LReach n lease inst s) (i : Nat) : (s.inst i).parts ≤ 500 := (reach_lwf hc h i).partsMax

/-- provisioning creates exactly `partitionCount` partitions … -/
theorem provision_count (n : Nat) (s s' : LSt) (i : Nat) (h : lstep n s (.provision i) = some s') :
    (s'.inst i).parts = partitionCount (s.inst i).gen (s.inst i).shared (s.inst i).factor :=
  (C17.reprovision n s s' i h).1

/-- … which is `ceil(shared / factor)` whenever that is at most 500, and 500 otherwise (v2) -/
theorem partitionCount_v2 (sh f : Nat) :
    partitionCount .v2 sh f = if ceilDivN sh f > 500 then 500 else ceilDivN sh f := rfl
theorem partitionCount_v1 (sh f : Nat) : partitionCount .v1 sh f = ceilDivN sh f := rfl

/-- v1 refuses a configuration of more than 500 partitions: Start/Provision leaves the resource as it was -/
theorem v1_refuses_over_500 (n : Nat) (s s' : LSt) (i : Nat) (ok : Bool) (h : lstep n s (.start i ok) = some s')
    (hg : (s.inst i).gen = .v1) (hbig : ceilDivN (s.inst i).shared (s.inst i).factor > 500) : s' = s := by
  cases LStep.of_lstep h with
  | inst _ hs =>
    cases hs with
    | startOk _ _ hv1 => exact absurd (hv1 hg) (Nat.not_le.mpr hbig)
    | startFail => exact s.updI_inst_self i

/-- outside a pending re-provisioning, the provisioned count is the configured one (or nothing is provisioned yet) -/
theorem parts_cfg {n lease : Nat} {inst : Nat → LInst} (hc : Configured inst) {s : LSt}
    (h : LReach n lease inst s) (i : Nat) (hp : (s.inst i).needProvision = false) :
    (s.inst i).parts = 0 ∨ (s.inst i).parts = partitionCount (s.inst i).gen (s.inst i).shared (s.inst i).factor :=
  (reach_lwf hc h i).partsCfg hp

theorem factor_pos_init (g : LGen) (f r sh : Nat) : 0 < (LInst.init g f r sh).factor := by
  show 0 < (if f = 0 then 1 else f)
  split
  · exact Nat.one_pos
  · exact Nat.pos_of_ne_zero ‹_›

/-- with every partition counted, Capacity() is MaxCapacity() when SharedCapacity is a multiple of Factor -/
theorem factor_mul_count_eq_max (x : LInst) (hf : 0 < x.factor) (hd : x.shared % x.factor = 0) :
    x.reserved + x.factor * partitionCount x.gen x.shared x.factor = x.maxCapacity := by
  have hsh := ceilDiv_of_dvd _ _ hf hd
  unfold LInst.maxCapacity partitionCount
  generalize ceilDivN x.shared x.factor = k at hsh ⊢
  rw [← hsh]
  cases x.gen with
  | v1 => rfl
  | v2 =>
    -- the cap is reached by `factor * k` exactly when `k` is above 500
    show _ + _ * (if maxPartitions < k then _ else _) = _ + (if _ * maxPartitions < _ * k then _ else _)
    by_cases hb : maxPartitions < k
    · rw [if_pos hb, if_pos ((Nat.mul_lt_mul_left hf).mpr hb)]
    · rw [if_neg hb, if_neg (mt (Nat.mul_lt_mul_left hf).mp hb)]

/-- **Capacity() ≤ MaxCapacity()** whenever SharedCapacity is a multiple of Factor (no re-provisioning pending) -/
theorem capacity_le_maxCapacity {n lease : Nat} {inst : Nat → LInst} (hc : Configured inst) {s : LSt}
    (h : LReach n lease inst s) (i : Nat) (hf : 0 < (s.inst i).factor)
    (hd : (s.inst i).shared % (s.inst i).factor = 0) (hp : (s.inst i).needProvision = false)
    (hv1 : (s.inst i).gen = .v1 → ceilDivN (s.inst i).shared (s.inst i).factor ≤ 500) :
    (s.inst i).capacity ≤ (s.inst i).maxCapacity := by
  have h1 := capacity_le hc h i
  rw [← factor_mul_count_eq_max _ hf hd]
  refine Nat.le_trans h1 (Nat.add_le_add_left (Nat.mul_le_mul_left _ ?_) _)
  rcases parts_cfg hc h i hp with h0 | h0 <;> rw [h0]
  · exact Nat.zero_le _
  · exact Nat.le_refl _

/-- MaxCapacity() is reserved + shared; in v2 the shared part is capped at 500 × factor -/
theorem maxCapacity_v1 (x : LInst) (h : x.gen = .v1) : x.maxCapacity = x.reserved + x.shared := by
  simp [LInst.maxCapacity, h]
theorem maxCapacity_v2 (x : LInst) (h : x.gen = .v2) :
    x.maxCapacity = x.reserved + min x.shared (x.factor * 500) := by
  unfold LInst.maxCapacity
  rw [h, Nat.min_def]
  show x.reserved + (if x.factor * 500 < x.shared then x.factor * 500 else x.shared) = _
  by_cases hb : x.shared ≤ x.factor * 500
  · rw [if_pos hb, if_neg (Nat.not_lt.mpr hb)]
  · rw [if_neg hb, if_pos (Nat.lt_of_not_le hb)]

/-- **A partition starts being counted only when a grant is reported** (the `ret` of a call the store granted) -/
theorem counted_only_from_reported_grant (n : Nat) (s s' : LSt) (l : LLabel) (h : lstep n s l = some s') (i p : Nat)
    (hnew : p ∈ (s'.inst i).held) (hold : p ∉ (s.inst i).held) :
    l = .ret i ∧ ∃ cl u, (s.inst i).call = some cl ∧ cl.part = p ∧ cl.result = some (some u) := by
  rcases step_inst h i with e | ⟨_, _, hs, e⟩ <;> rw [e] at hnew
  · exact absurd hnew hold
  · induction hs with
    | retGrant cl u hc hr =>
      exact ⟨rfl, cl, u, hc, ((mem_afterGrant_held.mp hnew).resolve_left hold).symm, hr⟩
    | provision | expire => exact absurd (List.mem_filter.mp hnew).1 hold
    | _ => exact absurd hnew hold

-- non-vacuity: shared 12, factor 5 ⇒ 3 partitions; one grant ⇒ capacity 7 + 5
example : ∃ s, lrun 1 (initSt 15 (fun _ => LInst.init .v2 5 7 12))
    [.start 0 true, .provision 0, .giveMe 0 20, .issue 0 2, .proc 0 true, .ret 0] = some s ∧
    (s.inst 0).parts = 3 ∧ (s.inst 0).capacity = 12 ∧ (s.inst 0).maxCapacity = 19 := ⟨_, rfl, by decide, by decide, by decide⟩

end GoBatcher.C06
