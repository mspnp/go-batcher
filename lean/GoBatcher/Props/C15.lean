import GoBatcher.Lemmas.Buffer
/-!
# C15 — The buffer is bounded and applies backpressure without losing or wedging callers

Model: M-Buffer L1 (`Buf`) and the blocked-caller machine `BufM` (condition-variable protocol), for every
capacity and every label sequence (new callers in either full-buffer mode, woken callers re-checking, cursor
moves, removals from head / middle / tail, shutdown at any point). `wos` = "shutdown wakes the waiters and a
woken caller re-checks isShutdown" (regenerated fact `shutdownWakesWaiters`).
-/
namespace GoBatcher.C15

def Bounded (m : BufM) : Prop := m.buf.items.length ≤ m.buf.cap
def CurOK (m : BufM) : Prop := ∀ i, m.buf.cur = some i → i < m.buf.items.length
/-- no lost wake-up: if somebody waits, every free place is spoken for by a woken caller -/
def NoLost (m : BufM) : Prop := m.waiting ≠ [] → m.buf.items.length + m.woken.length ≥ m.buf.cap
/-- after a (waking) shutdown nobody is left waiting -/
def ShutNoWait (m : BufM) : Prop := m.buf.shut = true → m.waiting = []

instance (m : BufM) : Decidable (Bounded m) := by unfold Bounded; exact inferInstance
instance (m : BufM) : Decidable (NoLost m) := by unfold NoLost; exact inferInstance

/-- OperationsInBuffer() never exceeds the configured size: invariant under every step. -/
theorem step_bounded (wos : Bool) (m m' : BufM) (l : BufLabel) (h : m.step wos l = some m')
    (hb : Bounded m) : Bounded m' := by
  unfold Bounded at *
  induction BufM.Step.of_step h with
  | enqOk _ _ _ _ hr | retryOk _ _ hr => exact Nat.le_of_lt_succ (by simpa using Nat.succ_lt_succ hr)
  | removeQuiet | removeWake => exact Nat.le_trans (List.length_eraseIdx_le ..) hb
  | shutdownWake | shutdown => exact Nat.zero_le _
  | _ => assumption

theorem run_bounded (wos : Bool) : ∀ (ls : List BufLabel) (m m' : BufM),
    BufM.run wos m ls = some m' → Bounded m → Bounded m' :=
  BufM.run_induct (step_bounded wos)

/-- every reachable state of a buffer of capacity `cap` is bounded -/
theorem reachable_bounded (wos : Bool) (cap : Nat) (ls : List BufLabel) (m' : BufM)
    (h : BufM.run wos (BufM.new cap) ls = some m') : m'.buf.items.length ≤ cap := by
  -- no step changes the capacity
  have hc : m'.buf.cap = cap :=
    BufM.run_induct (P := fun m => m.buf.cap = cap)
      (fun m m₁ l hs hm => by cases BufM.Step.of_step hs <;> exact hm) ls _ m' h rfl
  exact hc ▸ run_bounded wos ls _ m' h (Nat.zero_le _)

/-- An operation is added only when there is room; with ErrorOnFullBuffer a full buffer answers `full` and the
buffer is left exactly as it was. -/
theorem enqueue_characterisation (b : Buf) (op : Op) (eof : Bool) :
    ((b.enqueue op eof).2 = .ok ↔ b.shut = false ∧ b.items.length < b.cap) ∧
    ((b.enqueue op eof).2 = .ok → (b.enqueue op eof).1.items = b.items ++ [op]) ∧
    ((b.enqueue op eof).2 ≠ .ok → (b.enqueue op eof).1 = b) ∧
    ((b.enqueue op eof).2 = .full ↔ b.shut = false ∧ b.items.length ≥ b.cap ∧ eof = true) := by
  fun_cases Buf.enqueue b op eof
  case case1 hs => simp [hs]
  case case2 hs hf => cases eof <;> simp [hs, hf, Nat.not_lt.mpr hf]
  case case3 hs hf => simp [hs, hf, Nat.not_le.mp hf]

/-- the machine's `enq` step is `Buf.enqueue` with `wouldBlock` turned into waiting -/
theorem enq_step_spec (wos : Bool) (m : BufM) (k : Nat) (op : Op) (eof : Bool) :
    m.step wos (.enq k op eof) =
      (match (m.buf.enqueue op eof).2 with
       | .wouldBlock => some { m with waiting := m.waiting ++ [(k, op)] }
       | r => some { m with buf := (m.buf.enqueue op eof).1, returned := m.returned ++ [(k, r)] }) := by
  fun_cases Buf.enqueue m.buf op eof
  case case1 hs => simp only [BufM.step, hs, if_true]
  case case2 hs hf => cases eof <;> simp [BufM.step, hs, hf]
  case case3 hs hf => simp only [BufM.step, hs, hf, if_false]; rfl

/-- FIFO: `remove` takes out exactly the cursor record and keeps the order of the rest (head, middle, tail or
sole element alike); `skip` and `top` change nothing but the cursor; enqueue appends at the tail. -/
theorem remove_is_eraseIdx (b : Buf) (i : Nat) (h : b.cur = some i) :
    b.remove.1.items = b.items.eraseIdx i :=
  Buf.remove_items h

theorem top_skip_keep_items (b : Buf) : b.top.1.items = b.items ∧ b.skip.1.items = b.items :=
  ⟨b.top_items, b.skip_items⟩

/-- the cursor always designates an existing record -/
theorem step_curOK (wos : Bool) (m m' : BufM) (l : BufLabel) (h : m.step wos l = some m')
    (hc : CurOK m) : CurOK m' := by
  unfold CurOK at *
  induction BufM.Step.of_step h with
  | enqOk | retryOk => exact fun i hi => Nat.lt_of_lt_of_le (hc i hi) (by simp)
  | top | skip | removeQuiet | removeWake => exact fun _ => Buf.seek_cur_lt
  | shutdownWake | shutdown => exact nofun
  | _ => assumption

theorem step_shutNoWait (m m' : BufM) (l : BufLabel) (h : m.step true l = some m')
    (hs : ShutNoWait m) : ShutNoWait m' := by
  unfold ShutNoWait at *
  induction BufM.Step.of_step h with
  | enqWait _ _ hsh | retryWait _ hsh => exact fun h' => absurd h' (by simpa using hsh)
  | removeWake _ hw => exact fun h' => by simpa [hw] using hs h'
  | shutdownWake => exact fun _ => rfl
  | shutdown hw => cases hw
  | _ => assumption

/-- No lost wake-up: `Wait` and `Signal` happen under one lock, so whenever a caller waits and a place is free,
a woken caller exists that will re-check and take it. Invariant under every step when shutdown wakes the
waiters; on code where it does not (`wos = false`), under every step except `shutdown`. -/
theorem step_noLost (wos : Bool) (m m' : BufM) (l : BufLabel) (h : m.step wos l = some m')
    (hl : wos = true ∨ l ≠ .shutdown) (hsw : wos = true → ShutNoWait m) (hn : NoLost m) : NoLost m' := by
  unfold NoLost ShutNoWait at *
  induction BufM.Step.of_step h with
  | enqWait _ _ _ hf => exact fun _ => Nat.le_trans hf (Nat.le_add_right ..)
  | enqOk =>
    intro hw; have := hn hw
    simp only [List.length_append, List.length_singleton]; omega
  | retryOk hf =>
    -- the woken caller's place in `woken` becomes its operation's place in the buffer
    intro hw; have := hn hw
    have hmem := List.mem_of_find?_eq_some hf
    have := List.length_pos_of_mem hmem
    simp only [List.length_append, List.length_singleton, List.length_erase_of_mem hmem]; omega
  | retryShut _ hs => exact fun hw => absurd (hsw hs.1 hs.2) hw
  | retryWait _ _ hfull => exact fun _ => Nat.le_trans hfull (Nat.le_add_right ..)
  | removeQuiet _ hw => exact fun h' => absurd hw h'
  | @removeWake i _ _ _ hw =>
    intro _
    have := hn (hw ▸ List.cons_ne_nil _ _)
    have := List.le_length_eraseIdx m.buf.items i
    show (m.buf.items.eraseIdx i).length + (m.woken ++ [_]).length ≥ m.buf.cap
    rw [List.length_append, List.length_singleton]; omega
  | shutdownWake => exact fun h' => absurd rfl h'
  | shutdown hw => exact (hl.resolve_left (by simp [hw]) rfl).elim
  | _ => assumption

/-- Consequence: while running, a free place and a waiting caller imply an enabled `retry` that succeeds unless
a newcomer takes the place first — a blocked Enqueue is admitted whenever a place frees. -/
theorem free_place_is_claimed (m : BufM) (hn : NoLost m) (hw : m.waiting ≠ [])
    (hfree : m.buf.items.length < m.buf.cap) : m.woken ≠ [] := by
  have := hn hw
  intro he; simp [he] at this; omega

/-- `remove` of a record while callers wait wakes exactly the oldest one -/
theorem remove_wakes_oldest (wos : Bool) (m : BufM) (i : Nat) (w : Nat × Op) (rest : List (Nat × Op))
    (hi : m.buf.cur = some i) (hw : m.waiting = w :: rest) :
    ∃ m', m.step wos .remove = some m' ∧ m'.waiting = rest ∧ m'.woken = m.woken ++ [w] := by
  simp [BufM.step, hi, signalOne, hw]

/-- With waking shutdown, every caller blocked at shutdown returns with the shutdown error: after `shutdown`
nobody waits, and each woken caller's `retry` is enabled and returns `.shutdown`. -/
theorem shutdown_releases_waiters (m : BufM) :
    ∃ m', m.step true .shutdown = some m' ∧ m'.waiting = [] ∧ m'.woken = m.woken ++ m.waiting ∧ m'.buf.shut = true :=
  ⟨_, rfl, rfl, rfl, rfl⟩

theorem retry_after_shutdown_returns (m : BufM) (w : Nat × Op) (hw : m.woken.find? (·.1 == w.1) = some w)
    (hs : m.buf.shut = true) :
    ∃ m', m.step true (.retry w.1) = some m' ∧ m'.returned = m.returned ++ [(w.1, .shutdown)] := by
  simp [BufM.step, hw, hs]

/-- On code where shutdown does NOT wake the waiters (`wos = false`, the unchanged v2 buffer — finding F4) a
caller blocked at shutdown stays blocked forever: `Stuck` is invariant under every step other than `remove`
(the only step that signals; its sole caller, the processing loop, has returned once it has shut the buffer
down). -/
def Stuck (k : Nat) (m : BufM) : Prop := m.buf.shut = true ∧ m.waiting.any (·.1 == k) = true

instance (k : Nat) (m : BufM) : Decidable (Stuck k m) := by unfold Stuck; exact inferInstance

theorem stuck_forever (k : Nat) (m m' : BufM) (l : BufLabel) (h : m.step false l = some m')
    (hl : l ≠ .remove) (hs : Stuck k m) : Stuck k m' := by
  obtain ⟨hsh, hw⟩ := hs
  unfold Stuck
  induction BufM.Step.of_step h with
  | enqFull _ _ hs | enqWait _ _ hs | enqOk _ _ _ hs => simp [hsh] at hs
  | retryWait => exact ⟨hsh, by simp [hw]⟩
  | shutdown => exact ⟨rfl, hw⟩
  | enqShut | retryShut | retryOk | top | skipNone | skip => exact ⟨hsh, hw⟩
  | removeNone | removeQuiet | removeWake => exact absurd rfl hl
  | shutdownWake hw => cases hw

theorem unfixed_shutdown_counterexample :
    ∃ m, BufM.run false (BufM.new 1)
        [.enq 1 ⟨1, 1, 0, 1, true⟩ false, .enq 2 ⟨2, 2, 0, 1, true⟩ false, .shutdown] = some m ∧ Stuck 2 m := by
  refine ⟨_, rfl, ?_⟩
  decide

-- non-vacuity of the invariants on a state with a waiter and a woken caller
example : ∃ m, BufM.run true (BufM.new 1)
    [.enq 1 ⟨1, 1, 0, 1, true⟩ false, .enq 2 ⟨2, 2, 0, 1, true⟩ false, .enq 3 ⟨3, 3, 0, 1, true⟩ false, .top, .remove] = some m
    ∧ m.waiting ≠ [] ∧ m.woken ≠ [] ∧ NoLost m ∧ Bounded m := by
  refine ⟨_, rfl, ?_⟩
  decide

end GoBatcher.C15
