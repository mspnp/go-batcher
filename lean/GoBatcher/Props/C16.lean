import GoBatcher.Lemmas.BatcherLoop
/-!
# C16 — Batcher lifecycle: start once, stop cleanly, nothing happens after shutdown

Model: M-Batcher (v1 Stop()/v2 context cancellation = `stopCall`). The v2 "setters panic after Start" clause
is a finite table regenerated from the source (`Expect.facts_C02_C11_C12_C13_C16_C19_setter_guards`).
Finding F3 (v1): Enqueue after Stop() panics — `v1_enqueue_after_stop_panics` is the model's witness.
-/
namespace GoBatcher.C16

/-- Start succeeds iff the Batcher was never started (nor stopped): exactly once. -/
theorem start_iff_uninit (c : BCfg) (s : St) : (step c s .startCall).isSome ↔ s.phase = .uninit :=
  step_startCall_isSome c s

theorem later_starts_fail (c : BCfg) (s : St) : (step c s .startAgain = some s) ↔ s.phase ≠ .uninit := by
  simp only [step]
  by_cases h : s.phase = .uninit <;> simp [h]

/-- once left, `uninit` never comes back: Start can never succeed a second time -/
theorem never_uninit_again (c : BCfg) (s s' : St) (l : Label) (h : step c s l = some s') (hp : s.phase ≠ .uninit) :
    s'.phase ≠ .uninit := by
  induction Step.of_step h with
  | pauseEff | startCall | stopEarlyV1 | stopV1 | takeStopV2 => exact nofun
  | wake => exact fun h => hp (resume_uninit h)
  | _ => assumption

/-- exactly one shutdown event, raised when the loop exits -/
theorem one_shutdown_event (c : BCfg) (s : St) (h : Reachable c s) :
    s.shutdowns = (if s.loop = .exited then 1 else 0) :=
  (reachable_loopOK c s h).shutdowns

/-- after the shutdown nothing is released and no capacity is requested: no loop action is enabled, ever again -/
theorem nothing_after_shutdown (c : BCfg) (s : St) (l : Label) (hs : s.loop = .exited) (hl : l.isLoop = true ∨ l = .wake) :
    step c s l = none := by
  refine Option.eq_none_iff_forall_ne_some.mpr fun _ h => ?_
  rcases hl with hl | rfl
  · simpa [hs] using isLoop_running h hl
  · cases Step.of_step h with
    | wake hl => cases hs.symm.trans hl

theorem exited_forever (c : BCfg) (s s' : St) (l : Label) (h : step c s l = some s') (hs : s.loop = .exited)
    (hp : s.phase ≠ .uninit) : s'.loop = .exited := by
  -- the only transition that leaves `exited` without needing a running or sleeping loop is Start, which needs `uninit`
  have no {x : LoopSt} (hl : s.loop = x) (hx : x ≠ .exited) : False := hx (hl ▸ hs)
  induction Step.of_step h with
  | startCall hu => exact absurd hu hp
  | takeStopV1 | takeStopV2 => rfl
  | takePause hl | wake hl | cycleBegin _ hl | cycleTake hl | cycleRaise hl | scanEnd hl | sweepOne hl | cycleEnd hl =>
    exact (no hl nofun).elim
  | setCost => exact (doSetCost_loop_iff s _ _ (x := .exited)).mpr hs
  | _ => exact hs

/-- Termination as a bound: once a stop has been requested, an idle loop must take it before time passes, a
cycle completes without time passing, and a sleeping loop wakes at the end of its sleep at the latest — so the
loop exits within PauseTime of the request, from every phase including paused. -/
theorem stop_is_taken_within_pause_time (s : St) (dt : Nat) (hstop : s.stopReq = true) (h : canAdvance s dt = true) :
    (∃ u, s.loop = .sleeping u ∧ s.now + dt ≤ u) ∨ s.loop = .exited ∨ s.loop = .notStarted := by
  have := (canAdvance_spec h).loop
  cases hl : s.loop with
  | idle => rw [hl] at this; simp [armReady, hstop] at this
  | sleeping u => rw [hl] at this; exact .inl ⟨u, rfl, this⟩
  | cycle | sweep => rw [hl] at this; exact this.elim
  | exited => exact .inr (.inl rfl)
  | notStarted => exact .inr (.inr rfl)

/-- and the stop arm is enabled whenever the loop is idle with a stop requested -/
theorem stop_enabled_when_idle (c : BCfg) (s : St) (hl : s.loop = .idle) (hstop : s.stopReq = true) :
    ∃ s', step c s .takeStop = some s' ∧ s'.loop = .exited ∧ s'.shutdowns = s.shutdowns + 1 := by
  simp only [step, hl, hstop]
  cases c.gen <;> simp [shutdownV1, shutdownV2]

/-- v2: Enqueue after shutdown reports BufferIsShutdown (and leaves the demand unchanged, C03) -/
theorem v2_enqueue_after_shutdown_is_refused (c : BCfg) (s : St) (k : Nat) (op : Op) (hg : c.gen = .v2)
    (hs : s.bm.buf.shut = true) (hf : findPend k s.pend = some op)
    (hw : (s.bm.waiting.any (·.1 == k) || s.bm.woken.any (·.1 == k)) = false) :
    step c s (.enqInsert k) = some (enqRefuse s k op .shutdown c.rollback) := by
  simp [step, hf, hw, hg, hs]

theorem v2_shutdown_shuts_buffer (c : BCfg) (s : St) : (shutdownV2 c s).bm.buf.shut = true := by
  rw [shutdownV2_buf]; rfl

/-- Finding F3 (v1): after Stop() the buffer channel is closed and a later Enqueue counts its cost and then
panics ("send on closed channel") instead of returning an error. -/
theorem v1_enqueue_after_stop_panics (c : BCfg) (s : St) (k : Nat) (op : Op) (hg : c.gen = .v1)
    (hs : s.closed = true) (hf : findPend k s.pend = some op)
    (hw : (s.bm.waiting.any (·.1 == k) || s.bm.woken.any (·.1 == k)) = false) :
    step c s (.enqInsert k) = some (enqRefuse s k op .shutdown false) := by
  simp [step, hf, hw, hg, hs]

end GoBatcher.C16
