import GoBatcher.Lemmas.Validate
/-!
# C14 — Enqueue admits exactly the valid operations (pure part)

The side-effect and attempt-counting clauses are proved on the Batcher machine (`Props/C14b.lean`).
-/
namespace GoBatcher.C14

theorem noOperation_iff (i : EnqInput) : validate i = some .noOperation ↔ i.hasOp = false := by
  simp [validate, ite_eq_iff]

theorem noWatcher_iff (i : EnqInput) :
    validate i = some .noWatcher ↔ i.hasOp = true ∧ i.hasWatcher = false := by
  simp [validate, ite_eq_iff]

theorem tooExpensive_iff (i : EnqInput) :
    validate i = some .tooExpensive ↔
      i.hasOp = true ∧ i.hasWatcher = true ∧ i.limited = true ∧ i.cost > i.maxCap := by
  simp [validate, ite_eq_iff]

theorem tooManyAttempts_iff (i : EnqInput) :
    validate i = some .tooManyAttempts ↔
      i.hasOp = true ∧ i.hasWatcher = true ∧ ¬ (i.limited = true ∧ i.cost > i.maxCap) ∧
      i.maxAttempts > 0 ∧ i.attempt ≥ i.maxAttempts := by
  simp [validate, ite_eq_iff]

/-- every other operation is accepted … -/
theorem accepted_iff (i : EnqInput) :
    validate i = none ↔
      i.hasOp = true ∧ i.hasWatcher = true ∧ (i.limited = true → i.cost ≤ i.maxCap) ∧
      (i.maxAttempts > 0 → i.attempt < i.maxAttempts) := by
  simp [validate, ite_eq_iff]

/-- … including cost equal to MaxCapacity() and any cost when no limiter is attached. -/
theorem cost_eq_max_accepted (i : EnqInput) (h1 : i.hasOp = true) (h2 : i.hasWatcher = true)
    (hc : i.cost = i.maxCap) (ha : i.maxAttempts = 0) : validate i = none := by
  rw [accepted_iff]; exact ⟨h1, h2, fun _ => by omega, fun h => by omega⟩

theorem any_cost_without_limiter (i : EnqInput) (h1 : i.hasOp = true) (h2 : i.hasWatcher = true)
    (hl : i.limited = false) (ha : i.maxAttempts = 0) : validate i = none := by
  rw [accepted_iff]; exact ⟨h1, h2, fun h => by simp [hl] at h, fun h => by omega⟩

/-- after the MaxAttempts-th delivery re-enqueueing is refused (attempt counter = deliveries, see C14b) -/
theorem refused_after_max_attempts (i : EnqInput) (h1 : i.hasOp = true) (h2 : i.hasWatcher = true)
    (hc : i.limited = true → i.cost ≤ i.maxCap) (hk : i.maxAttempts > 0) (ha : i.attempt ≥ i.maxAttempts) :
    validate i = some .tooManyAttempts := by
  rw [tooManyAttempts_iff]; exact ⟨h1, h2, fun ⟨hl, hgt⟩ => by have := hc hl; omega, hk, ha⟩

-- non-vacuity
example : validate { hasOp := true, hasWatcher := true, limited := true, maxCap := 5, cost := 5, maxAttempts := 3, attempt := 2 } = none := by decide
example : validate { hasOp := true, hasWatcher := true, limited := true, maxCap := 5, cost := 6, maxAttempts := 3, attempt := 3 } = some .tooExpensive := by decide

end GoBatcher.C14
