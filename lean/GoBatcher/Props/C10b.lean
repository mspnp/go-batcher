import GoBatcher.Lemmas.BatcherSlots
/-!
# C10 (machine level) — MaxConcurrentBatches is never exceeded and slots are never leaked

Model: M-Batcher, all interleavings of completions (return / time-out / late return) with flush cycles, for
watchers whose MaxOperationTime does not exceed the Batcher's (the property's restriction).
`Inflight()` is `s.slots`.
-/
namespace GoBatcher.C10b

theorem run_slots (c : BCfg) (hw : ∀ w, effMot c w ≤ c.mot) : ∀ (ls : List Label) (s s' : St),
    run c s ls = some s' → Inv c s → OpenNE s → SlotsOK c s → SlotsOK c s' ∧ OpenNE s' :=
  fun ls s s' h hi hn hs =>
    (run_induct (P := fun s => Inv c s ∧ SlotsOK c s ∧ OpenNE s)
      (fun s s' l h ⟨hi, hs, hn⟩ => ⟨step_inv c s s' l h hi,
        step_slotsOK c s s' l h hw hi.ids hi.time hi.start hn hs, step_openNE c s s' l h hn⟩)
      ls s s' h ⟨hi, hs, hn⟩).2

/-- In every reachable state: Inflight() equals the number of batches in progress (raised and neither returned
nor timed out) plus the batches the running cycle has opened and will raise in its sweep; and it never
exceeds MaxConcurrentBatches. Without a limit Inflight() is 0. -/
theorem inflight_is_batches_in_progress (c : BCfg) (hw : ∀ w, effMot c w ≤ c.mot) (s : St) (h : Reachable c s) :
    (c.mcb = 0 → s.slots = 0) ∧
    (c.mcb ≠ 0 → s.slots = nUnfinished s.batches + openCount s ∧ s.slots ≤ c.mcb) := by
  obtain ⟨ls, hr⟩ := h
  exact (run_slots c hw ls _ s hr (inv_init c) (by simp [OpenNE, St.init])
    (by simp [SlotsOK, St.init, nUnfinished, openCount])).1

/-- between cycles (loop not in a cycle) Inflight() is exactly the number of batches in progress, ≤ n -/
theorem at_most_n_in_progress (c : BCfg) (hw : ∀ w, effMot c w ≤ c.mot) (s : St) (h : Reachable c s)
    (hm : c.mcb ≠ 0) : nUnfinished s.batches ≤ c.mcb := by
  have := (inflight_is_batches_in_progress c hw s h).2 hm
  omega

/-- every slot is given back when its batch returns or times out: finishing a batch frees exactly one slot -/
theorem finish_frees_one_slot (c : BCfg) (s s' : St) (b : Nat) (h : step c s (.finish b) = some s') (hm : c.mcb ≠ 0) :
    s'.slots = s.slots - 1 := by
  cases Step.of_step h with
  | finish => simp [markFinished, hm]

/-- operations that cannot get a slot stay buffered: a cycle step that finds no free slot leaves the buffer
content and the demand untouched (it only moves the cursor) -/
theorem no_slot_no_release (c : BCfg) (s s' : St) (a : Nat) (acc : Acc) (i : Nat) (op : Op)
    (hl : s.loop = .cycle a acc) (hc : curPos c s = some i) (ho : s.bm.buf.items[i]? = some op)
    (hk : stepOp (cycleCfg c a) acc (slotFree c s) op = .skip) (h : step c s .cycleStep = some s') :
    s'.bm.buf.items = s.bm.buf.items ∧ s'.batches = s.batches ∧ s'.slots = s.slots ∧ s'.target = s.target := by
  simp only [step, hl, hc, ho, hk] at h
  cases h
  exact ⟨Buf.skip_items _, rfl, rfl, rfl⟩

/-- the Batcher cannot stall for lack of slots once callbacks finish: a finished batch makes `slotFree` true again -/
theorem slot_free_after_finish (c : BCfg) (hw : ∀ w, effMot c w ≤ c.mot) (s s' : St) (b : Nat)
    (hr : Reachable c s) (h : step c s (.finish b) = some s') : slotFree c s' = true := by
  by_cases hm : c.mcb = 0
  · simp [slotFree, hm]
  · -- one slot less than before, and before there were at most `mcb` (> 0) in use
    have h1 := finish_frees_one_slot c s s' b h hm
    have h2 := ((inflight_is_batches_in_progress c hw s hr).2 hm).2
    simp only [slotFree, Bool.or_eq_true, beq_iff_eq, decide_eq_true_eq]
    omega

-- non-vacuity: limit 1, two single operations: the second stays buffered until the first batch finishes
private def cfg : BCfg :=
  { gen := .v2, bufCap := 4, limited := false, flushInt := 100, capInt := 1000, auditInt := 1000, mot := 50, pause := 5,
    errorOnFull := false, mcb := 1, wMaxBatch := fun _ => 0, wMot := fun _ => 0, rollback := true, wos := true }
private def o1 : Op := { id := 1, obj := 1, w := 0, cost := 2, batchable := false }
private def o2 : Op := { id := 2, obj := 2, w := 0, cost := 3, batchable := false }
example : ∃ s, run cfg (St.init cfg) [.startCall, .enqCount 1 o1, .enqInsert 1, .enqCount 2 o2, .enqInsert 2, .advance 100,
    .fireF, .takeFlushTick, .cycleBegin 0, .cycleStep, .cycleStep, .scanEnd, .cycleEnd] = some s ∧
    s.slots = 1 ∧ s.bm.buf.items = [o2] ∧ nUnfinished s.batches = 1 := by
  refine ⟨_, rfl, ?_, ?_, ?_⟩ <;> decide

end GoBatcher.C10b
