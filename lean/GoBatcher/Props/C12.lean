import GoBatcher.Lemmas.BatcherLoop
/-!
# C12 — The limiter is told the current demand every CapacityInterval

Model: M-Batcher. All clauses are invariants or one-step facts, so no temporal logic is needed:
a tick is a `fireC` at exactly `nextC` (every CapacityInterval after Start), the request is the `takeCap`
that consumes it.
-/
namespace GoBatcher.C12

/-- A request is made with the current NeedsCapacity() value (including zero), only when a limiter is
attached, and only by an idle loop (not sleeping = paused, not exited = shut down, not before Start). -/
theorem request_carries_current_demand (c : BCfg) (s s' : St) (h : step c s .takeCap = some s') :
    s.loop = .idle ∧ s.tickC = true ∧ s'.tickC = false ∧
    s'.giveMes = (if c.limited then s.giveMes ++ [(s.now, s.target)] else s.giveMes) := by
  cases Step.of_step h with
  | takeCap hl ht => exact ⟨hl, ht, rfl, rfl⟩

/-- GiveMe is called by nothing else: every other action leaves the request log alone. -/
theorem only_takeCap_requests (c : BCfg) (s s' : St) (l : Label) (hl : l ≠ .takeCap) (h : step c s l = some s') :
    s'.giveMes = s.giveMes := by
  induction Step.of_step h with
  | takeCap => exact absurd rfl hl
  | _ => rfl

/-- ticks are exactly CapacityInterval apart: a tick fires at `nextC` and moves it by CapacityInterval
(default 100 ms when ≤ 0); Start puts the first one CapacityInterval after Start -/
theorem ticks_every_interval (c : BCfg) (s s' : St) :
    (step c s .fireC = some s' → s.now = s.nextC ∧ s'.nextC = s.nextC + c.capInt ∧ s'.tickC = true) ∧
    (step c s .startCall = some s' → s'.nextC = s.now + c.capInt) := by
  constructor <;> intro h
  · cases Step.of_step h with
    | fireC _ hn => exact ⟨hn, rfl, rfl⟩
  · cases Step.of_step h with
    | startCall => rfl

theorem capacity_interval_default (v : Int) (h : v ≤ 0) : applyDefault v defCap = 100000000 := by
  simp [applyDefault, h, defCap]

/-- Exactly once: along every run the number of requests never exceeds the number of ticks (a tick is
answered at most once — ticks that pile up during a pause coalesce into one) … -/
theorem at_most_one_request_per_tick (c : BCfg) (ls : List Label) (s : St)
    (h : run c (St.init c) ls = some s) : ls.count .takeCap + b2n s.tickC ≤ ls.count .fireC := by
  have := run_requests_le_ticks c ls (St.init c) s h
  simpa [St.init, b2n] using this

/-- … and at least once: while running and not paused, time cannot pass over an unanswered tick (nor over an
unanswered audit tick, flush tick or Flush() request) — the request is made at the tick's own instant. -/
theorem tick_answered_before_time_moves (s : St) (dt : Nat) (h : canAdvance s dt = true) (hl : s.loop = .idle) :
    s.tickC = false := (idle_time_passes_only_when_nothing_ready s dt h hl).2.2.2.1

/-- time cannot pass over a due tick either: it fires at exactly `nextC` -/
theorem tick_fires_on_time (s : St) (dt : Nat) (h : canAdvance s dt = true) (hr : tickersRunning s = true) :
    s.now + dt ≤ s.nextC :=
  ((canAdvance_spec h).tickers hr).2.1

/-- No request during a pause or after shutdown: `takeCap` is not enabled then. -/
theorem no_request_while_paused_or_stopped (c : BCfg) (s : St) (h : (∃ u, s.loop = .sleeping u) ∨ s.loop = .exited ∨ s.loop = .notStarted) :
    step c s .takeCap = none :=
  Option.eq_none_iff_forall_ne_some.mpr fun _ hs => by
    have := isLoop_running hs rfl
    rcases h with ⟨u, h⟩ | h | h <;> simp [h] at this

-- non-vacuity: two ticks, two requests with the demand of the moment (0, then 7)
private def cfg : BCfg :=
  { gen := .v2, bufCap := 4, limited := true, flushInt := 1000, capInt := 10, auditInt := 1000, mot := 50, pause := 7,
    errorOnFull := false, mcb := 0, wMaxBatch := fun _ => 0, wMot := fun _ => 0, rollback := true, wos := true }
private def op7 : Op := { id := 1, obj := 1, w := 0, cost := 7, batchable := true }
example : ∃ s, run cfg (St.init cfg) [.startCall, .advance 10, .fireC, .takeCap, .enqCount 1 op7, .enqInsert 1,
    .advance 10, .fireC, .takeCap] = some s ∧ s.giveMes = [(10, 0), (20, 7)] := ⟨_, rfl, by decide⟩

end GoBatcher.C12
