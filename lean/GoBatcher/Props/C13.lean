import GoBatcher.Lemmas.BatcherLoop
/-!
# C13 — Pause suspends all processing for exactly PauseTime and always resumes

Model: M-Batcher. "Exactly" is exact in the model's (and synctest's) time; wall-clock jitter is outside it.
-/
namespace GoBatcher.C13

/-- Pause() has an effect exactly when the Batcher is running and not already paused; otherwise (already
paused, before Start, after shutdown) it changes nothing — so it cannot extend a pause. -/
theorem pause_call_effect (c : BCfg) (s : St) :
    step c s .pauseCall = some (if s.phase = .started
      then { s with pauseReq := true, phase := .paused, effPauseCalls := s.effPauseCalls + 1 } else s) := by
  simp only [step]
  by_cases h : s.phase = .started <;> simp [h]

/-- The pause event starts a sleep of exactly PauseTime (default applied by the configuration) … -/
theorem pause_event_starts_sleep (c : BCfg) (s s' : St) (h : step c s .takePause = some s') :
    s'.loop = .sleeping (s.now + c.pause) ∧ s'.pauses = s.pauses + 1 ∧ s'.pauseReq = false := by
  cases Step.of_step h with
  | takePause => exact ⟨rfl, rfl, rfl⟩

/-- … during which no batch is released, no capacity is requested and no audit runs (no loop action is enabled
at all, at any instant of the sleep, for every watcher, buffer content and limiter) … -/
theorem nothing_happens_while_paused (c : BCfg) (s : St) (u : Nat) (l : Label) (hs : s.loop = .sleeping u)
    (hl : l.isLoop = true) : step c s l = none :=
  Option.eq_none_iff_forall_ne_some.mpr fun _ h => by simpa [hs] using isLoop_running h hl

/-- … the sleep cannot be overslept (time does not pass beyond its end before the loop wakes) … -/
theorem sleep_ends_exactly (c : BCfg) (s : St) (h : Reachable c s) (u : Nat) (hs : s.loop = .sleeping u) :
    s.now ≤ u ∧ ∀ dt, canAdvance s dt = true → s.now + dt ≤ u :=
  ⟨((reachable_loopOK c s h).asleep u hs).1, fun dt hd => sleep_not_overslept s dt u hd hs⟩

/-- … and the resume happens at that instant and at no other, returning the Batcher to `started`, so Pause()
works again after every resume. -/
theorem resume_exactly_at_end (c : BCfg) (s s' : St) (h : step c s .wake = some s') :
    ∃ u, s.loop = .sleeping u ∧ s.now = u ∧ s'.loop = .idle ∧ (s.phase = .paused → s'.phase = .started) := by
  cases Step.of_step h with
  | wake hl hu => exact ⟨_, hl, hu, rfl, fun hp => by simp [hp]⟩

/-- the pause itself loses nothing: buffer, demand and batches are untouched by pause and resume -/
theorem pause_and_resume_keep_everything (c : BCfg) (s s' : St) (l : Label) (hl : l = .takePause ∨ l = .wake)
    (h : step c s l = some s') :
    s'.bm = s.bm ∧ s'.target = s.target ∧ s'.batches = s.batches ∧ s'.pend = s.pend := by
  rcases hl with rfl | rfl <;> cases Step.of_step h <;> exact ⟨rfl, rfl, rfl, rfl⟩

/-- number of pause events = number of effective Pause() calls (minus the one still pending); while a request
is pending or the loop sleeps the phase is not `started`, so no further call is effective -/
theorem pauses_match_effective_calls (c : BCfg) (s : St) (h : Reachable c s) :
    s.pauses + b2n s.pauseReq = s.effPauseCalls ∧
    (∀ u, s.loop = .sleeping u → s.pauseReq = false ∧ s.phase ≠ .started) :=
  ⟨(reachable_loopOK c s h).pauses, fun u hu => ((reachable_loopOK c s h).asleep u hu).2⟩

/-- default: `applyDefaults` replaces a PauseTime ≤ 0 by 500 ms -/
theorem pause_default (v : Int) (h : v ≤ 0) : applyDefault v defPause = 500000000 := by
  simp [applyDefault, h, defPause]

-- non-vacuity: a paused state is reachable, and the wake-up is enabled exactly 7 time units later
private def cfg : BCfg :=
  { gen := .v2, bufCap := 1, limited := false, flushInt := 100, capInt := 100, auditInt := 1000, mot := 50, pause := 7,
    errorOnFull := false, mcb := 0, wMaxBatch := fun _ => 0, wMot := fun _ => 0, rollback := true, wos := true }
example : ∃ s, run cfg (St.init cfg) [.startCall, .advance 3, .pauseCall, .pauseCall, .takePause, .pauseCall, .advance 7, .wake] = some s ∧
    s.now = 10 ∧ s.pauses = 1 ∧ s.effPauseCalls = 1 ∧ s.phase = .started := by
  refine ⟨_, rfl, ?_, ?_, ?_, ?_⟩ <;> decide
example : run cfg (St.init cfg) [.startCall, .advance 3, .pauseCall, .takePause, .advance 6, .wake] = none := by decide
example : run cfg (St.init cfg) [.startCall, .advance 3, .pauseCall, .takePause, .advance 8] = none := by decide

end GoBatcher.C13
