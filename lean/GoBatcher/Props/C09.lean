import GoBatcher.Lemmas.LeaseReach
import GoBatcher.Props.C17
/-!
# C09 — Needed capacity is acquired, and dead peers' capacity reclaimed, in bounded time  (PARTIAL)

What is proved, for M-Lease and all histories:
* faults (refused / errored / slow lease calls, failed provisioning) never stop the acquisition loop and never change
  what the instance counts (`refusal_changes_nothing`, `loop_survives`, `failed_provisioning_changes_nothing`);
* every lease in the store ends at most one lease duration after it was granted, and an instance that no longer runs
  its loop (crashed, stopped) never extends one — so one lease duration after a peer died every partition it held is
  free (`dead_peer_partitions_free`);
* whenever the instance needs more and an existing partition it does not count is free, the next attempt is enabled,
  is granted and is counted (`attempt_enabled`, `free_partition_is_granted`, `grant_in_time_is_counted`);
* `acquires_in_k_iterations`: a needy instance facing free partitions acquires one partition per loop iteration,
  whatever the sleep and the lease-call latencies of each iteration, as long as the iterations together take less
  than one lease duration (the proviso of the property) — so `k` partitions take at most `k × (MaxInterval + latency)`.

What is NOT carried by the model (hence "partial"): the model does not bound the loop's sleep (`MaxInterval` is the
environment's choice of `advance`), so "within lease + partitions × (MaxInterval + latency)" is the theorem above
instantiated with iterations of at most that length; that the real loop wakes at least every MaxInterval, and picks a
free partition when peers still hold others (a random choice — acquisition is then only probabilistically bounded),
is observed on the real code by the lease family's monitor (`needed-capacity-not-acquired-in-bounded-time`).
-/
namespace GoBatcher.C09

/-- a refused / failed lease call leaves the instance exactly as it was before the request, and the store untouched -/
theorem refusal_changes_nothing (n : Nat) (s s1 s2 s3 : LSt) (i p : Nat) (h1 : lstep n s (.issue i p) = some s1)
    (h2 : lstep n s1 (.proc i false) = some s2) (h3 : lstep n s2 (.ret i) = some s3) :
    s3.inst i = s.inst i ∧ s3.store = s.store := by
  cases LStep.of_lstep h1 with | inst _ r1 => ?_
  cases r1 with | issue _ _ _ hc => ?_
  cases LStep.of_lstep h2 with | inst _ r2 => ?_
  cases r2 with | refuse => ?_
  cases LStep.of_lstep h3 with | inst _ r3 => ?_
  cases r3 with
  | retDrop =>
    -- the call is gone again: the instance differs from the one before the request in nothing
    refine ⟨?_, rfl⟩
    simp only [updI_same]
    cases hx : s.inst i
    rw [hx] at hc
    cases hc
    rfl
  | retGrant cl' u hc3 hr3 =>
    simp only [updI_same] at hc3
    cases hc3
    cases hr3

/-- nothing but Stop / cancellation or a crash of that instance ends its acquisition loop -/
theorem loop_survives (n : Nat) (s s' : LSt) (l : LLabel) (h : lstep n s l = some s') (i : Nat)
    (hon : (s.inst i).loopOn = true) (h1 : l ≠ .stop i) (h2 : l ≠ .crash i) : (s'.inst i).loopOn = true := by
  rcases step_inst h i with e | ⟨_, _, hs, e⟩ <;> rw [e]
  · exact hon
  · induction hs with
    | stop => exact absurd rfl h1
    | crash => exact absurd rfl h2
    | startOk => rfl
    | _ => exact hon

theorem failed_provisioning_changes_nothing (n : Nat) (s s' : LSt) (i : Nat) (h : lstep n s (.start i false) = some s') :
    s' = s := C17.failed_start_changes_nothing n s s' i h

/-- every lease in the store ends at most one lease duration from now -/
def StoreFresh (s : LSt) : Prop := ∀ p j u, s.store p = some (j, u) → u ≤ s.now + s.lease

/-- only a grant to `j` writes a lease of `j` into the store, and it needs a lease call of `j` in flight -/
theorem store_written_only_by_grant (n : Nat) (s s' : LSt) (l : LLabel) (h : lstep n s l = some s') (p : Nat)
    (hne : s'.store p ≠ s.store p) :
    ∃ j cl, l = .proc j true ∧ (s.inst j).call = some cl ∧ cl.result = none ∧ cl.part = p ∧
      s'.store p = some (j, s.now + s.lease) := by
  cases LStep.of_lstep h with
  | advance => exact absurd rfl hne
  | @inst j _ _ _ _ hs =>
    induction hs with
    | grant cl hc hr =>
      have hp : p = cl.part := Decidable.byContradiction fun hx => hne (updS_other hx)
      subst hp
      exact ⟨j, cl, rfl, hc, hr, rfl, updS_same ..⟩
    | _ => exact absurd rfl hne

theorem step_storeFresh (n : Nat) (s s' : LSt) (l : LLabel) (h : lstep n s l = some s') (hf : StoreFresh s) : StoreFresh s' := by
  intro p j u hs
  have hn := Nat.add_le_add_right (step_now_le n s s' l h) s.lease
  rw [step_lease n s s' l h]
  by_cases hne : s'.store p = s.store p
  · exact Nat.le_trans (hf p j u (hne ▸ hs)) hn
  · obtain ⟨j', cl, _, _, _, _, he⟩ := store_written_only_by_grant n s s' l h p hne
    cases he.symm.trans hs
    exact hn

/-- instance `j` is out of the game: no loop, no lease request still on its way to the store, and it cannot be
started (again) -/
structure Dead (s : LSt) (j : Nat) : Prop where
  off : (s.inst j).loopOn = false
  idle : ∀ cl, (s.inst j).call = some cl → cl.result ≠ none
  used : (s.inst j).phase ≠ .uninit

theorem step_dead (n : Nat) (s s' : LSt) (l : LLabel) (h : lstep n s l = some s') (j : Nat) (hd : Dead s j) : Dead s' j := by
  rcases step_inst h j with e | ⟨x', _, hs, e⟩
  · exact ⟨e ▸ hd.off, e ▸ hd.idle, e ▸ hd.used⟩
  · have ⟨hoff, hidle, hused⟩ := hd
    suffices x'.loopOn = false ∧ (∀ cl, x'.call = some cl → cl.result ≠ none) ∧ x'.phase ≠ .uninit from
      ⟨e ▸ this.1, e ▸ this.2.1, e ▸ this.2.2⟩
    induction hs with
    | startOk hp => exact absurd hp hused
    | provision hon | issue _ hon | stop hon => rw [hoff] at hon; cases hon
    | grant cl hc hr | refuse _ cl hc hr => exact absurd hr (hidle cl hc)
    | retDrop | retGrant => exact ⟨hoff, nofun, hused⟩
    | crash => exact ⟨rfl, hidle, hused⟩
    | _ => exact ⟨hoff, hidle, hused⟩

/-- **A dead peer's capacity is reclaimed within one lease duration.** If at `s0` instance `j` has crashed or
stopped, then in every later state every lease the store still holds for `j` ends by `s0.now + lease`: from that
instant on all its partitions are free for others. -/
theorem dead_peer_partitions_free (n : Nat) (j : Nat) (ls : List LLabel) (s0 s : LSt) (hr : lrun n s0 ls = some s)
    (hd : Dead s0 j) (T : Nat) (hb : ∀ p u, s0.store p = some (j, u) → u ≤ T) : ∀ p u, s.store p = some (j, u) → u ≤ T := by
  refine (lrun_induct (P := fun s => Dead s j ∧ ∀ p u, s.store p = some (j, u) → u ≤ T) hr ?_ ⟨hd, hb⟩).2
  intro l _ s s' hs ⟨hd, hb⟩
  refine ⟨step_dead n s s' l hs j hd, fun p u hp => ?_⟩
  by_cases hne : s'.store p = s.store p
  · exact hb p u (hne ▸ hp)
  · -- a fresh lease of `j` would need a request of `j` on its way to the store
    obtain ⟨j', cl, _, hcall, hres, _, he⟩ := store_written_only_by_grant n s s' l hs p hne
    cases he.symm.trans hp
    exact absurd hres (hd.idle cl hcall)

theorem dead_peer_free_after_lease (n : Nat) (j : Nat) (ls : List LLabel) (s0 s : LSt) (hr : lrun n s0 ls = some s)
    (hd : Dead s0 j) (hf : StoreFresh s0) (hlate : s0.now + s0.lease ≤ s.now) (p u : Nat) (hp : s.store p = some (j, u)) :
    storeFree s p = true := by
  have := dead_peer_partitions_free n j ls s0 s hr hd (s0.now + s0.lease) (fun p u h => hf p j u h) p u hp
  rw [storeFree, hp]
  exact decide_eq_true (Nat.le_trans this hlate)

theorem attempt_enabled (n : Nat) (s : LSt) (i p : Nat) (hi : i < n) (hon : (s.inst i).loopOn = true)
    (ha : (s.inst i).alive = true) (hc : (s.inst i).call = none)
    (hd : (s.inst i).held.length < (s.inst i).target) (hr : p < (s.inst i).parts) (hh : p ∉ (s.inst i).held) :
    ∃ s', lstep n s (.issue i p) = some s' := by
  unfold lstep
  simp [LLabel.inst?, hi, lstepCore, hon, ha, hc, hd, hr, hh]

theorem free_partition_is_granted (n : Nat) (s : LSt) (i : Nat) (hi : i < n) (cl : LCall)
    (hc : (s.inst i).call = some cl) (hu : cl.result = none) (hf : storeFree s cl.part = true) :
    ∃ s', lstep n s (.proc i true) = some s' ∧
      (s'.inst i).call = some { cl with result := some (some (s.now + s.lease)) } := by
  unfold lstep
  simp [LLabel.inst?, hi, lstepCore, hc, hu, hf]

theorem grant_in_time_is_counted (n : Nat) (s : LSt) (i : Nat) (hi : i < n) (cl : LCall) (u : Nat)
    (hc : (s.inst i).call = some cl) (hu : cl.result = some (some u)) (ht : s.now < cl.issuedAt + s.lease)
    (hn : cl.part ∉ (s.inst i).held) :
    ∃ s', lstep n s (.ret i) = some s' ∧ (s'.inst i).held = (s.inst i).held ++ [cl.part] ∧
      (s'.inst i).capacity = (s.inst i).capacity + (s.inst i).factor := by
  unfold lstep
  simp [LLabel.inst?, hi, lstepCore, hc, hu, Nat.not_le.mpr ht, afterGrant, hn, LInst.capacity, Nat.mul_succ, Nat.add_assoc]

def adv (d : Nat) : List LLabel := if d = 0 then [] else [.advance d]

/-- one loop iteration: sleep `a`, request `p`, the store processes it after `b`, the call returns after another `c` -/
def iteration (i p a b c : Nat) : List LLabel := adv a ++ [.issue i p] ++ adv b ++ [.proc i true] ++ adv c ++ [.ret i]

def schedule (i : Nat) : List Nat → List (Nat × Nat × Nat) → List LLabel
  | p :: ps, (a, b, c) :: gs => iteration i p a b c ++ schedule i ps gs
  | _, _ => []

def duration : List (Nat × Nat × Nat) → Nat
  | [] => 0
  | (a, b, c) :: gs => a + b + c + duration gs

/-- What `acquires_in_k_iterations` asks of the start: instance `i` runs, wants all of `ps` and they are free; and (`quiet`) no
expiry timer of any instance falls due within `D` - timers are urgent and the schedule has no `expire` step. -/
structure Ready (n : Nat) (s : LSt) (i : Nat) (ps : List Nat) (D : Nat) : Prop where
  hi : i < n
  loop : (s.inst i).loopOn = true ∧ (s.inst i).alive = true ∧ (s.inst i).needProvision = false ∧ (s.inst i).call = none
  nodup : ps.Nodup
  range : ∀ p, p ∈ ps → p < (s.inst i).parts ∧ p ∉ (s.inst i).held ∧ storeFree s p = true
  demand : (s.inst i).held.length + ps.length ≤ (s.inst i).target
  quiet : ∀ j, j < n → ∀ t, t ∈ (s.inst j).timers → s.now + D ≤ t.2
  short : D < s.lease

theorem lrun_adv (n : Nat) (s : LSt) (d : Nat) (rest : List LLabel)
    (hq : ∀ j, j < n → ∀ t, t ∈ (s.inst j).timers → s.now + d ≤ t.2) :
    lrun n s (adv d ++ rest) = lrun n { s with now := s.now + d } rest := by
  unfold adv
  by_cases hd : d = 0
  · subst hd; simp
  · have hadv : lCanAdvance s n d = true := (lCanAdvance_iff ..).mpr ⟨Nat.pos_of_ne_zero hd, hq⟩
    simp [hd, lrun, lstep, LLabel.inst?, lstepCore, hadv]

theorem freeAt_mono (e : Option (Nat × Nat)) (t t' : Nat) (ht : t ≤ t') (h : freeAt e t = true) : freeAt e t' = true :=
  (freeAt_iff e t').mpr fun o u he => Nat.le_trans ((freeAt_iff e t).mp h o u he) ht

theorem one_iteration (n : Nat) (s : LSt) (i p : Nat) (ps : List Nat) (D a b c : Nat) (rest : List LLabel)
    (hr : Ready n s i (p :: ps) D) (hd : a + b + c ≤ D) :
    ∃ s', lrun n s (iteration i p a b c ++ rest) = lrun n s' rest ∧ Ready n s' i ps (D - (a + b + c)) ∧
      (s'.inst i).held = (s.inst i).held ++ [p] ∧ s'.now = s.now + (a + b + c) := by
  obtain ⟨hi, ⟨hon, hal, hnp, hcn⟩, hnd, hrange, hdm, hquiet, hshort⟩ := hr
  -- name the fields of the instance: the states below are then built from variables, not from projections
  rcases hx : s.inst i with
    ⟨gen, factor, reserved, shared, phase, alive, loopOn, parts, held, timers, target, call, needProvision, shutdowns⟩
  have hqi := hquiet i hi
  simp only [hx, List.length_cons] at hon hal hnp hcn hdm hqi hrange
  subst hon hal hnp hcn
  obtain ⟨hpr, hph, hpf⟩ := hrange p List.mem_cons_self
  have hnc : held.contains p = false := by simpa using hph
  obtain ⟨hlt, hdm', t1, t2, t3, t4, t5, t6, t7, t8⟩ : held.length < target ∧ held.length + 1 + ps.length ≤ target ∧
      s.now + a ≤ s.now + D ∧ s.now + a + b ≤ s.now + D ∧ s.now + a + b + c ≤ s.now + D ∧
      ¬ (s.now + a + s.lease ≤ s.now + a + b + c) ∧ s.now + a + b + c + (D - (a + b + c)) = s.now + D ∧
      s.now + D ≤ s.now + a + s.lease ∧ D - (a + b + c) < s.lease ∧ s.now + a + b + c = s.now + (a + b + c) := by omega
  -- `t1` `t2` `t3`: each wait ends before `D`, so no timer is passed over; `t4`: the grant comes back in time; `t5` `t6`: the new
  -- timer, at request time + lease, is not before `D`; `t7` `t8`: what is left of `D`, for the next iteration
  -- only the timers of instance `i` change, and not before the grant is reported
  have hq : ∀ x' : LInst, (∀ t, t ∈ x'.timers → s.now + D ≤ t.2) →
      ∀ j, j < n → ∀ t, t ∈ (updI s.inst i x' j).timers → s.now + D ≤ t.2 := by
    intro x' hx' j hj t ht
    by_cases hji : j = i
    · subst hji; rw [updI_same] at ht; exact hx' t ht
    · rw [updI_other hji] at ht; exact hquiet j hj t ht
  unfold iteration
  simp only [List.append_assoc, List.cons_append, List.nil_append]
  -- the sleep, then the request is issued
  rw [lrun_adv n s a _ (fun j hj t ht => Nat.le_trans t1 (hquiet j hj t ht))]
  simp only [lrun, lstep, LLabel.inst?, hi, if_true, lstepCore, hx, hlt,
    hpr, hnc, Option.isNone_none, Bool.not_false, Bool.and_self, decide_true, Option.bind_some]
  -- the store processes the request
  rw [lrun_adv n _ b _ (fun j hj t ht => Nat.le_trans t2 (hq _ hqi j hj t ht))]
  have hfree : freeAt (s.store p) (s.now + a + b) = true := freeAt_mono _ _ _ (Nat.add_assoc s.now a b ▸ Nat.le_add_right s.now (a + b)) hpf
  simp only [lrun, lstep, LLabel.inst?, hi, if_true, lstepCore, updI_same, Option.isSome_none, Bool.false_eq_true, if_false,
    Bool.true_and, storeFree, hfree, Option.bind_some]
  -- the call returns
  rw [lrun_adv n _ c _ (fun j hj t ht => Nat.le_trans t3 (hq _ hqi j hj t (by rwa [updI_updI] at ht)))]
  simp only [lrun, lstep, LLabel.inst?, hi, if_true, lstepCore, updI_same, t4, if_false, Option.bind_some, afterGrant, hnc,
    Bool.false_eq_true, updI_updI]
  have hnd := List.nodup_cons.mp hnd
  refine ⟨_, rfl, ⟨hi, ?_, hnd.2, fun q hq => ?_, ?_, fun j hj t ht => ?_, t7⟩, ?_, t8⟩
  · simp only [updI_same, and_self]
  · obtain ⟨q1, q2, q3⟩ := hrange q (List.mem_cons_of_mem _ hq)
    have hqp : q ≠ p := fun e => hnd.1 (e ▸ hq)
    simp only [updI_same, List.mem_append, List.mem_singleton, storeFree, updS_other hqp]
    exact ⟨q1, fun h => h.elim q2 hqp, freeAt_mono _ _ _ (t8 ▸ Nat.le_add_right s.now (a + b + c)) q3⟩
  · simpa only [updI_same, List.length_append, List.length_singleton] using hdm'
  · show s.now + a + b + c + (D - (a + b + c)) ≤ t.2
    rw [t5]
    refine hq _ (fun t ht => (List.mem_append.mp ht).elim (hqi t) fun ht => ?_) j hj t ht
    cases List.mem_singleton.mp ht
    exact t6
  · simp only [updI_same]

/-- **k free partitions are acquired in k loop iterations**, whatever each iteration's sleep and lease-call latency,
provided the iterations together take less than one lease duration. With iterations of at most `MaxInterval + latency`
that is `k × (MaxInterval + latency)` after the partitions became free (at most one lease duration after a peer died). -/
theorem acquires_in_k_iterations (n : Nat) (i : Nat) : ∀ (ps : List Nat) (gs : List (Nat × Nat × Nat)) (s : LSt) (D : Nat),
    ps.length = gs.length → duration gs ≤ D → Ready n s i ps D →
    ∃ s', lrun n s (schedule i ps gs) = some s' ∧ (s'.inst i).held = (s.inst i).held ++ ps ∧ s'.now = s.now + duration gs := by
  intro ps
  induction ps with
  | nil =>
    intro gs s D hl _ _
    cases gs with
    | nil => exact ⟨s, rfl, (List.append_nil _).symm, rfl⟩
    | cons g gs => cases hl
  | cons p ps ih =>
    intro gs s D hl hd hr
    cases gs with
    | nil => cases hl
    | cons g gs =>
      obtain ⟨a, b, c⟩ := g
      have hd : a + b + c + duration gs ≤ D := hd
      obtain ⟨s1, h1, hr1, hh1, hn1⟩ :=
        one_iteration n s i p ps D a b c (schedule i ps gs) hr (Nat.le_trans (Nat.le_add_right _ _) hd)
      obtain ⟨s2, h2, hh2, hn2⟩ := ih gs s1 (D - (a + b + c)) (Nat.succ.inj hl) (Nat.le_sub_of_add_le' hd) hr1
      exact ⟨s2, h1.trans h2, by rw [hh2, hh1, List.append_assoc]; rfl, by rw [hn2, hn1, Nat.add_assoc]; rfl⟩

theorem duration_le (MI L : Nat) : ∀ (gs : List (Nat × Nat × Nat)),
    (∀ g, g ∈ gs → g.1 ≤ MI ∧ g.2.1 + g.2.2 ≤ L) → duration gs ≤ gs.length * (MI + L)
  | [], _ => Nat.zero_le _
  | (a, b, c) :: gs, h => by
    have h1 := h (a, b, c) List.mem_cons_self
    have h2 := duration_le MI L gs (fun g hg => h g (List.mem_cons_of_mem _ hg))
    show a + b + c + duration gs ≤ (gs.length + 1) * (MI + L)
    rw [Nat.succ_mul, Nat.add_comm, Nat.add_assoc a b c]
    exact Nat.add_le_add h2 (Nat.add_le_add h1.1 h1.2)

/-- **The time bound of C09**: if every iteration sleeps at most `MI` (MaxInterval) and its lease call takes at most `L`
(latency before + after the store processes it), and `k × (MI + L)` is shorter than a lease, then `k` free, needed
partitions are all counted at most `k × (MI + L)` after they became free — which is at most one lease duration after
the last fault / the death of the peer that held them (`dead_peer_free_after_lease`). That the real loop's sleep is
`rand[0, MaxInterval)` ms is read off the source (skeleton of the loop) and watched by the bounded-time monitor. -/
theorem acquired_within_time_bound (n i : Nat) (ps : List Nat) (gs : List (Nat × Nat × Nat)) (s : LSt) (MI L : Nat)
    (hl : ps.length = gs.length) (hb : ∀ g, g ∈ gs → g.1 ≤ MI ∧ g.2.1 + g.2.2 ≤ L)
    (hr : Ready n s i ps (ps.length * (MI + L))) :
    ∃ s', lrun n s (schedule i ps gs) = some s' ∧ (s'.inst i).held = (s.inst i).held ++ ps ∧
      s'.now ≤ s.now + ps.length * (MI + L) := by
  have hd := duration_le MI L gs hb
  rw [← hl] at hd
  obtain ⟨s', h1, h2, h3⟩ := acquires_in_k_iterations n i ps gs s (ps.length * (MI + L)) hl hd hr
  exact ⟨s', h1, h2, h3 ▸ Nat.add_le_add_left hd _⟩

-- non-vacuity: two free partitions, demand for both, two iterations of 1+1+1 s: both held after 6 s (< 15 s)
private def x0 : LInst := { LInst.init .v2 1 0 2 with phase := .started, loopOn := true, parts := 2, target := 2 }
private def s0 : LSt := { now := 100, lease := 15, store := fun p => if p = 0 then some (7, 90) else none, inst := fun _ => x0 }
example : Ready 1 s0 0 [0, 1] 6 := by
  refine ⟨by decide, by decide, by decide, ?_, by decide, ?_, by decide⟩
  · intro p hp; simp at hp; rcases hp with rfl | rfl <;> decide
  · intro j hj t ht; simp [s0, x0, LInst.init] at ht

end GoBatcher.C09
