import GoBatcher.Model.Cycle
import GoBatcher.Lemmas.Run
import GoBatcher.Lemmas.Cycle
import GoBatcher.Lemmas.CycleShape
import GoBatcher.Lemmas.CycleOrder
import GoBatcher.Props.C05
import GoBatcher.Model.Validate
import GoBatcher.Lemmas.Validate
import GoBatcher.Props.C14
import GoBatcher.Props.C01
import GoBatcher.Props.C02
import GoBatcher.Props.C08
import GoBatcher.Props.C10
import GoBatcher.Lemmas.CycleProgress
import GoBatcher.Model.Buffer
import GoBatcher.Model.Batcher
import GoBatcher.Lemmas.Buffer
import GoBatcher.Lemmas.BatcherStep
import GoBatcher.Props.C15
import GoBatcher.Props.C03
import GoBatcher.Props.C02b
import GoBatcher.Props.C08b
import GoBatcher.Props.C10b
import GoBatcher.Props.C11
import GoBatcher.Props.C12
import GoBatcher.Props.C13
import GoBatcher.Props.C16
import GoBatcher.Props.C19
import GoBatcher.Expect
import GoBatcher.Props.C01b
import GoBatcher.Props.C14b
import GoBatcher.ExpectShapes
import GoBatcher.Lemmas.LeaseStep
import GoBatcher.Lemmas.LeaseMgr
import GoBatcher.Props.C04
import GoBatcher.Props.C06
import GoBatcher.Props.C07
import GoBatcher.Props.C09
import GoBatcher.Props.C17
import GoBatcher.Props.C20
import GoBatcher.Model.GoSem
import GoBatcher.Lemmas.TransCore
import GoBatcher.ExpectTrans
import GoBatcher.Model.BufferLinked
import GoBatcher.Lemmas.BufferLinked
import GoBatcher.Props.C15b
import GoBatcher.Model.Locks
import GoBatcher.ExpectLocks
import GoBatcher.ExpectTransBuf
import GoBatcher.ExpectTransLm
import GoBatcher.ExpectTransCycle
